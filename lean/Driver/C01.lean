import MiVerif.Model.Page
import MiVerif.Model.SegmentInv
/- correspondence driver for C01: replays the micro-steps of real pages / a real segment through PageM / SegM and compares the
   state after every step; evaluates the executable invariants on every state and on snapshots of real pages -/
namespace C01Val
open PageM

def parseList (s : String) : List Nat :=       -- "name=[1,2,3]"
  match s.splitOn "=[" with
  | [_, r] => let body := (r.dropEnd 1).toString
              if body.isEmpty then [] else (body.splitOn ",").map String.toNat!
  | _ => []
def parseKV (s : String) : Nat := match s.splitOn "=" with | [_, v] => v.toNat! | _ => 0

structure PState where
  cap : Nat
  res : Nat
  used : Nat
  free : List Nat
  lf : List Nat
  tf : List Nat
deriving BEq

def parsePState (ws : List String) : Option PState :=
  match ws with
  | [c, r, u, f, l, t] => some { cap := parseKV c, res := parseKV r, used := parseKV u, free := parseList f, lf := parseList l, tf := parseList t }
  | _ => none

def obs (p : Page) : PState := { cap := p.capacity, res := p.reserved, used := p.used, free := p.free, lf := p.lf, tf := p.tf }

structure St where
  page : Option Page := none
  seg : Option SegM.Seg := none
  pending : Option (String × String) := none     -- expected S/Q lines of the segment model
  n : Nat := 0
  d : Nat := 0
  invBad : Nat := 0
  snaps : Nat := 0

def pageOp (p : Page) (op : List String) : Option Page :=
  match op with
  | ["pop", i] => match pop p with
      | some (b, p') => if b == i.toNat! then some p' else none
      | none => none
  | ["free", i] => if i.toNat! ∈ p.live then some (freeLocal p i.toNat!) else none
  | ["rfree", i] => if i.toNat! ∈ p.live then some (freeRemote p i.toNat!) else none
  | ["tfcollect"] => some (tfCollect p)
  | ["collect", "0"] => some (lfCollect (tfCollect p))
  | ["collect", "1"] => some (lfCollectForce (tfCollect p))
  | ["collect+extend", n] => let q := lfCollect (tfCollect p); if q.capacity + n.toNat! ≤ q.reserved ∧ q.free.isEmpty then some (extend q n.toNat!) else none
  | ["extend", n] => if p.capacity + n.toNat! ≤ p.reserved then some (extend p n.toNat!) else none
  | ["visit", u, l] =>
      -- _mi_heap_area_visit_blocks first force-collects the page, then reports every block that is not on the free list, in address order
      let q := lfCollectForce (tfCollect p)
      let vis := visitList q
      let seen := parseList ("x=" ++ l)
      -- (`area.used` is taken before the collect: it still counts blocks on the thread-free list)
      if vis == seen && parseKV u == p.used then some q else none
  | ["nop"] => some p
  | _ => none

partial def loop (h : IO.FS.Stream) (st : St) : IO St := do
  let line ← h.getLine
  if line.isEmpty then return st
  let line := line.trimAscii.toString
  let ws := (line.splitOn " ").filter (· ≠ "")
  match ws with
  | "PG" :: rest =>
    match rest.span (· ≠ "->") with
    | (op, _ :: obsWs) =>
      match parsePState obsWs with
      | none => IO.println s!"UNPARSED {line.take 200}"; loop h { st with d := st.d + 1 }
      | some o =>
        if op.head? == some "new" then
          -- initial state of a fresh page as the implementation reports it: block 0 is held
          let p : Page := { reserved := o.res, capacity := o.cap, used := o.used, free := o.free, lf := o.lf, tf := o.tf, live := [0] }
          let bad := if invB p then 0 else 1
          if bad == 1 && st.invBad < 5 then IO.println s!"INVARIANT {line.take 300}"
          loop h { st with page := some p, n := st.n + 1, invBad := st.invBad + bad }
        else
          match st.page with
          | none => loop h st
          | some p =>
            match pageOp p op with
            | none =>
              if st.d < 20 then IO.println s!"DIFF {line.take 300} || operation not enabled in the model"
              loop h { st with page := none, n := st.n + 1, d := st.d + 1 }
            | some p' =>
              let ok := obs p' == o
              if !ok && st.d < 20 then IO.println s!"DIFF {line.take 300} || model: cap={p'.capacity} used={p'.used} free={p'.free.take 12} lf={p'.lf.take 12} tf={p'.tf.take 12}"
              let bad := if invB p' then 0 else 1
              if bad == 1 && st.invBad < 5 then IO.println s!"INVARIANT {line.take 300}"
              loop h { st with page := if ok then some p' else none, n := st.n + 1, d := if ok then st.d else st.d + 1, invBad := st.invBad + bad }
    | _ => loop h st
  | ["SEG", "init", e, i] =>
    let g := SegM.init e.toNat! i.toNat!
    loop h { st with seg := some g, pending := some (SegM.dumpS g, SegM.dumpQ g) }
  | "SEG" :: op =>
    match st.seg with
    | none => loop h st
    | some g =>
      let (g', okRes) := match op with
        | ["alloc", n, "->", r] => let (g', res) := SegM.findAndAllocate g n.toNat!
                                   (g', (match res with | some i => toString i | none => "-1") == r)
        | ["clear", i] => (SegM.pageClear g i.toNat!, true)
        | _ => (g, true)
      if !okRes && st.d < 20 then IO.println s!"DIFF {line} || model result differs"
      let bad := if SegM.tilingOk g' then 0 else 1
      if bad == 1 && st.invBad < 5 then IO.println s!"INVARIANT tilingOk fails after {line}"
      loop h { st with seg := some g', pending := some (SegM.dumpS g', SegM.dumpQ g'), n := st.n + 1, d := if okRes then st.d else st.d + 1, invBad := st.invBad + bad }
  | "S" :: _ =>
    match st.pending with
    | some (s, _) =>
      let ok := s.trimAscii.toString == line
      if !ok && st.d < 20 then IO.println s!"DIFF slices {line.take 200} || model {s.take 200}"
      loop h { st with d := if ok then st.d else st.d + 1, seg := if ok then st.seg else none }
    | none => loop h st
  | "Q" :: _ =>
    match st.pending with
    | some (_, q) =>
      let ok := q.trimAscii.toString == line
      if !ok && st.d < 20 then IO.println s!"DIFF queues {line.take 200} || model {q.take 200}"
      loop h { st with d := if ok then st.d else st.d + 1, pending := none, seg := if ok then st.seg else none }
    | none => loop h st
  | "PS" :: rest =>
    match rest with
    | [c, r, u, f, l, t, lv] =>
      let p : Page := { reserved := parseKV r, capacity := parseKV c, used := parseKV u, free := parseList f, lf := parseList l, tf := parseList t, live := parseList lv }
      let bad := if invB p then 0 else 1
      if bad == 1 && st.invBad < 5 then IO.println s!"INVARIANT {line.take 300}"
      loop h { st with snaps := st.snaps + 1, invBad := st.invBad + bad }
    | _ => loop h st
  | _ => loop h st

def main (stdin : IO.FS.Stream) : IO UInt32 := do
  let st ← loop stdin {}
  IO.println s!"c01val steps {st.n} diffs {st.d} snapshots {st.snaps} invariant_violations {st.invBad}"
  return (if st.d == 0 && st.invBad == 0 then 0 else 1)

end C01Val
