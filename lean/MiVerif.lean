import MiVerif.Props.C01
import MiVerif.Props.C02
import MiVerif.Props.C03
import MiVerif.Props.C04
import MiVerif.Props.C05
import MiVerif.Props.C06
import MiVerif.Props.C07
import MiVerif.Props.C08
import MiVerif.Props.C09
import MiVerif.Props.C10
import MiVerif.Props.C11
import MiVerif.Props.C12
import MiVerif.Props.C13
import MiVerif.Props.C14
import MiVerif.Props.C15
import MiVerif.Props.C16
import MiVerif.Props.C17
import MiVerif.Props.C18
import MiVerif.Props.C19
import MiVerif.Props.C20
/- the whole library: every property module (and through them the models and lemmas they rest on) -/
