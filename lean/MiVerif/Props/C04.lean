import MiVerif.Gen.Entry
import MiVerif.Lemmas.EntryPoints
/-! C04 — zero-initialising allocation really returns zeros, also when growing.
   Subject: `GenE._mi_heap_realloc_zero` and `GenE.mi_heap_realloc_zero_aligned_at`, regenerated from
   src/alloc.c / src/alloc-aligned.c on every run, with the allocator underneath as universally quantified oracles and
   the memory operations (`_mi_memzero`, `_mi_memcpy`, `mi_free`) as an effect log.  The effect log is interpreted over a
   byte memory `Nat → Nat`; the theorems say what a *zeroing* re-allocation leaves in the new block. -/

namespace C04
open GenE

abbrev Mem := Nat → Nat     -- address ↦ byte

/-- interpretation of one logged memory operation -/
def applyEff (m : Mem) (e : String × List Nat) : Mem :=
  match e with
  | ("_mi_memzero", [a, n]) => fun x => if a ≤ x ∧ x < a + n then 0 else m x
  | ("_mi_memcpy", [d, s, n]) => fun x => if d ≤ x ∧ x < d + n then m (s + (x - d)) else m x
  | ("_mi_memcpy_aligned", [d, s, n]) => fun x => if d ≤ x ∧ x < d + n then m (s + (x - d)) else m x
  | ("store8", [a, v]) => fun x => if x = a then v else m x
  | _ => m

theorem ae_zero (m : Mem) (a n : Nat) : applyEff m ("_mi_memzero", [a, n]) = fun x => if a ≤ x ∧ x < a + n then 0 else m x := by rw [applyEff]
theorem ae_cpy (m : Mem) (d s n : Nat) : applyEff m ("_mi_memcpy", [d, s, n]) = fun x => if d ≤ x ∧ x < d + n then m (s + (x - d)) else m x := by rw [applyEff]
theorem ae_cpya (m : Mem) (d s n : Nat) : applyEff m ("_mi_memcpy_aligned", [d, s, n]) = fun x => if d ≤ x ∧ x < d + n then m (s + (x - d)) else m x := by rw [applyEff]
theorem ae_free (m : Mem) (p : Nat) : applyEff m ("mi_free", [p]) = m := by simp [applyEff]

def applyEffs (m : Mem) (es : List (String × List Nat)) : Mem := es.foldl applyEff m

/-- the bytes `[lo, hi)` of the block at `p` are zero -/
def ZeroRange (m : Mem) (p lo hi : Nat) : Prop := ∀ i, lo ≤ i → i < hi → m (p + i) = 0

theorem zero_copy_free (m : Mem) (z n d s k p i : Nat) :
    applyEffs m [("_mi_memzero", [z, n]), ("_mi_memcpy", [d, s, k]), ("mi_free", [p])] (d + i) =
      if i < k then (if z ≤ s + i ∧ s + i < z + n then 0 else m (s + i))
      else if z ≤ d + i ∧ d + i < z + n then 0 else m (d + i) := by
  simp only [applyEffs, List.foldl_cons, List.foldl_nil, ae_zero, ae_cpy, ae_free, Nat.add_sub_cancel_left, Nat.le_add_right, true_and,
    Nat.add_lt_add_iff_left]

/-- what a growth by moving leaves in the new block `np`, for any zeroing start `st` at or before the end `cs` of the copy
    (`req` = old requested size, `U'` = usable size of `np`) -/
theorem grow_keeps_prefix_zeroes_rest {m : Mem} {p np req cs st U' : Nat} (hst : st ≤ cs) (hreq : req ≤ cs)
    (hslack : ZeroRange m p req cs) (hdis : np + U' ≤ p ∨ p + cs ≤ np) :
    let m' := applyEffs m [("_mi_memzero", [np + st, U' - st]), ("_mi_memcpy", [np, p, cs]), ("mi_free", [p])]
    (∀ i, i < req → m' (np + i) = m (p + i)) ∧ ZeroRange m' np req U' := by
  -- a copied byte comes from `p`, which lies outside the zeroed range
  have hout : ∀ i, i < cs → ¬ (np + st ≤ p + i ∧ p + i < np + st + (U' - st)) := fun i hi => by omega
  refine ⟨fun i hi => ?_, fun i h1 h2 => ?_⟩
  · rw [zero_copy_free, if_pos (Nat.lt_of_lt_of_le hi hreq), if_neg (hout i (Nat.lt_of_lt_of_le hi hreq))]
  · rw [zero_copy_free]
    by_cases hic : i < cs
    · rw [if_pos hic, if_neg (hout i hic)]
      exact hslack i h1 hic
    · rw [if_neg hic, if_pos (by omega)]

variable (usable : Nat → Nat → Nat) (fsp : Nat → Nat → Nat) (pmz : Nat → Nat → Nat → Nat → Nat) (gen : Nat → Nat → Nat → Nat → Nat)

/-- **one growth step of rezalloc/recalloc** (plain variant).  If before the call the old block `p` (usable size `U`) holds
    zeros from its requested size `req` up to `U` (the slack invariant), and the call grows it to `newsize ≥ req`, then in the
    result block `r` (usable size `U'`): the first `req` bytes are the old contents, and *everything* from `req` up to the
    usable size `U'` is zero — in particular every byte between the previous and the new requested size, and the new slack, so
    the invariant holds again for the next step, whether the block moved or stayed in place.
    (`hfresh`, `hdis`: a newly allocated block is not, and does not overlap, the old one; sizes are far below 2^63 so the 64-bit
    arithmetic does not wrap.) -/
theorem rezalloc_step (heap p req newsize : Nat) (m : Mem)
    (hp : p ≠ 0) (hreq : req ≤ newsize) (hrU : req ≤ usable p 0)
    (hslack : ZeroRange m p req (usable p 0))
    (hb1 : usable p 0 < 2^62) (hb2 : newsize < 2^62) (hb3 : p < 2^62)
    (r : Nat) (eff : List (String × List Nat))
    (hcall : _mi_heap_realloc_zero usable fsp pmz gen heap p newsize 1 = (r, eff))
    (hr : r ≠ 0) (hr2 : r < 2^62) (hU' : usable r 0 < 2^62) (hfit : newsize ≤ usable r 0)
    (hfresh : mi_heap_malloc fsp pmz gen heap newsize ≠ p)      -- the allocator never returns a block that is still live (C01)
    (hdis : r ≠ p → (r + usable r 0 ≤ p ∨ p + usable p 0 ≤ r)) :
    (∀ i, i < req → applyEffs m eff (r + i) = m (p + i)) ∧ ZeroRange (applyEffs m eff) r req (usable r 0) := by
  have _ := hb1; have _ := hb2; have _ := hb3  -- (not needed)
  generalize hnp : mi_heap_malloc fsp pmz gen heap newsize = np at hfresh
  rw [C06L.realloc_zero_eq hnp] at hcall
  by_cases hin : newsize ≤ usable p 0 ∧ usable p 0 / 2 ≤ newsize ∧ 0 < newsize
  · rw [if_pos hin, Prod.mk.injEq] at hcall
    obtain ⟨rfl, rfl⟩ := hcall
    exact ⟨fun i _ => rfl, hslack⟩
  · rw [if_neg hin, Prod.mk.injEq] at hcall
    obtain ⟨rfl, rfl⟩ := hcall
    have hcs := Nat.min_le_left (usable p 0) newsize
    rw [if_pos hr, C06L.reallocInit, if_pos (show (1:Nat) ≠ 0 by decide), if_pos hp,
      C06L.zeroTail_eq (Nat.le_trans (Nat.min_le_right _ _) hfit) (by omega)]
    -- the zeroing starts 8 bytes before the end of the copy; any start at or before that end would do
    exact grow_keeps_prefix_zeroes_rest (Nat.sub_le _ 8) (Nat.le_min.2 ⟨hrU, hreq⟩)
      (fun i h1 h2 => hslack i h1 (Nat.lt_of_lt_of_le h2 hcs)) ((hdis hfresh).imp_right (Nat.le_trans (Nat.add_le_add_left hcs p)))

/-- aligned variant: when a zeroing aligned re-allocation moves the block, the log contains the zeroing of everything beyond the
    copied bytes up to the usable size of the new block (same rule as the plain variant) -/
theorem realloc_aligned_move_zeroes_tail
    (rd_free : Nat → Nat) (pmzd : Nat → Nat → Nat → Nat) (pm : Nat → Nat → Nat → Nat) (bs : Nat → Nat) (ps : Nat) (nog : Nat → Nat → Nat → Nat) (ptr_page : Nat → Nat)
    (heap p newsize alignment offset : Nat) (hal : 8 < alignment) (hp : p ≠ 0)
    (hmove : ¬ ((newsize ≤ usable p 0 ∧ newsize ≥ (usable p 0 + 18446744073709551616 - usable p 0 / 2) % 18446744073709551616) ∧ (p + offset) % 18446744073709551616 % alignment = 0))
    (hnew : (mi_heap_malloc_aligned_at fsp rd_free pmzd pm bs ps nog pmz gen ptr_page usable heap newsize alignment offset).1 ≠ 0) :
    let r := mi_heap_realloc_zero_aligned_at usable fsp pmz gen rd_free pmzd pm bs ps nog ptr_page heap p newsize alignment offset 1
    let cs := if newsize > usable p 0 then usable p 0 else newsize
    let start := if cs ≥ 8 then (cs + 18446744073709551616 - 8) % 18446744073709551616 else 0
    ("_mi_memzero", [(r.1 + start) % 18446744073709551616, (usable r.1 0 + 18446744073709551616 - start) % 18446744073709551616]) ∈ r.2 ∧
    ("_mi_memcpy_aligned", [r.1, p, cs]) ∈ r.2 := by
  rw [C06L.realloc_aligned_eq hal hp rfl, if_neg (fun h => hmove ⟨⟨h.1, h.2.1⟩, h.2.2⟩), if_pos hnew, Word.ite_gt_min]
  simp [C06L.zeroTail]

-- non-vacuity / the defect witness repaired in /repo: zalloc(1) -> rezalloc(2) moves inside the 8-byte class; the log now
-- zeroes the whole new block beyond the copied bytes
example : (_mi_heap_realloc_zero (fun _ _ => 8) (fun _ _ => 0) (fun _ _ _ _ => 2000) (fun _ _ _ _ => 2000) 0 1000 2 1)
    = (2000, [("_mi_memzero", [2000, 8]), ("_mi_memcpy", [2000, 1000, 2]), ("mi_free", [1000])]) := by decide

end C04
