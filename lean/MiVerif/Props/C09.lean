import MiVerif.Model.AbandonExec
/-! C09 — thread exit: live blocks survive; abandoned memory is adopted once, never leaked.
   Model: MiVerif/Model/Abandon.lean — the hand-over of one abandoned segment at the granularity of the atomic
   operations of src/arena-abandon.c / src/segment.c (owner id := 0; fetch-or of the abandoned bit; increment of abandoned_count; fetch-and
   clearing the bit; decrement; owner id := adopter; re-mark of a foreign segment; missed clear), any number of threads.  Blocks surviving
   the exit and being freeable by other threads is the cross-thread free protocol of C02/C08 (pages of an abandoned segment carry the
   never-delayed flag: frees push on the page list).
   Tie 1: the log of every atomic operation on one abandoned arena segment, recorded from the hooked allocator under the deterministic
   scheduler (harness/t3_abandon.c), is replayed through `exec` (Driver/C09.lean; proved sound: theorem
   `validated_runs_satisfy_invariant`); a log that is not a model execution is the replay.
   Tie 2: scheduler stress oracle on the real allocator with explicit mi_thread_done in virtual threads, arena and OS-list configurations,
   reclaim-on-free, forced abandonment. -/

namespace C09

/-- the hand-over invariant holds in every state reached by any interleaving of the atomic steps of any number of threads:
    [bit set] + #threads holding the segment + [owner ≠ 0] = 1, and abandoned_count = [bit] − #(bit set, not yet counted) + #(bit cleared, not yet discounted) -/
theorem handover_invariant {s s' : St} (h : AInv s) (st : Step s s') : AInv s' := inv_step h st

/-- **adopted at most once**: at most one thread holds an abandoned segment between its successful clear and its re-mark / take-over,
    and a segment with an owner is neither marked abandoned nor held by anyone else -/
theorem adopted_by_at_most_one {s : St} (h : AInv s) :
    holders s.fl ≤ 1 ∧ (s.owner ≠ 0 → s.bit = false ∧ holders s.fl = 0) := single_adopter h

/-- **not leaked by the hand-over**: when no operation is in flight, the segment is either owned by a thread or marked abandoned
    (so a later collect finds it), never neither; and the abandoned counter is exact -/
theorem never_in_limbo {s : St} (h : AInv s) (hq : s.fl = []) :
    ((s.owner ≠ 0 ∧ s.bit = false) ∨ (s.owner = 0 ∧ s.bit = true)) ∧ s.cnt = (b2n s.bit : Int) := by
  obtain ⟨no_holder, no_m2, no_c1⟩ := weigh_nil
  have htok := h.token
  have hcnt := h.count
  rw [hq, no_holder] at htok
  rw [hq, no_m2, no_c1] at hcnt
  refine ⟨?_, by simpa using hcnt⟩
  by_cases ho : s.owner = 0
  · refine .inr ⟨ho, Bool.of_not_eq_false fun hb => ?_⟩
    rw [ho, b2n_z, hb, b2n_false] at htok
    cases htok
  · exact .inl ⟨ho, ((single_adopter h).2 ho).1⟩

/-- every log accepted by the executable validator is an execution of the model, so the invariant holds in every state along it -/
theorem validated_runs_satisfy_invariant {s s' : St} {ls : List Lbl} (hi : AInv s) (h : run s ls = some s') : AInv s' := run_inv hi h

-- non-vacuity: exit of thread 7, two threads race for the adoption, thread 9 wins; the double win is not an execution
example : (run { owner := 7, bit := false, cnt := 0, fl := [] } [.markStore 7, .markOr 7, .clearAnd 9, .markInc, .clearDec 9, .clearOwn 9]).map (fun s => (s.owner, s.bit, s.cnt)) = some (9, false, 0) := by decide
example : run { owner := 7, bit := false, cnt := 0, fl := [] } [.markStore 7, .markOr 7, .markInc, .clearAnd 9, .clearAnd 8] = none := by decide

end C09
