import MiVerif.Gen.Arena
import MiVerif.Props.C16
/-! C15 — arena-bound heaps stay inside their arena; exclusive arenas stay private.
   `GenA.mi_arena_id_is_suitable` and `GenA._mi_arena_memid_is_suitable` are regenerated from src/arena.c on
   every run: they are the test every path that can hand memory to a heap performs (fresh arena allocation, span re-use in
   mi_segments_page_find_and_allocate, both reclaim paths, and - after the repair in /repo - the forced reclaim of the main
   thread).  That every such path calls the test is covered by the arena-mode shadow oracle (harness/seq.c flags=1). -/

namespace C15
open GenA

/-- an arena serves a request iff the request names it, or names none and the arena is not exclusive -/
theorem suitable_eq (arena_id req : Int) (excl : Nat) :
    mi_arena_id_is_suitable arena_id excl req = if (excl = 0 ∧ req = _mi_arena_id_none) ∨ arena_id = req then 1 else 0 := by
  unfold mi_arena_id_is_suitable
  -- the C test reads `!arena_is_exclusive`; its truth value is then turned into 0 or 1 a second time
  simp only [ne_eq, Decidable.not_not]
  by_cases h : excl = 0 ∧ req = _mi_arena_id_none ∨ arena_id = req
  · rw [if_pos h]; rfl
  · rw [if_neg h]; rfl

/-- an exclusive arena is suitable only for a request that names exactly that arena -/
theorem exclusive_stays_private (arena_id req : Int) :
    mi_arena_id_is_suitable arena_id 1 req = 1 ↔ arena_id = req := by
  simp [suitable_eq]

/-- a heap bound to arena `req` (`req ≠ none`) is only ever served from arena `req` -/
theorem bound_heap_only_its_arena (arena_id req : Int) (excl : Nat) (hreq : req ≠ _mi_arena_id_none) :
    mi_arena_id_is_suitable arena_id excl req = 1 ↔ arena_id = req := by
  simp [suitable_eq, hreq]

/-- a heap that is not bound to any arena may use exactly the non-exclusive arenas (and memory that is not from an arena) -/
theorem unbound_heap_nonexclusive (arena_id : Int) (excl : Nat) (ha : arena_id ≠ _mi_arena_id_none) :
    mi_arena_id_is_suitable arena_id excl _mi_arena_id_none = 1 ↔ excl = 0 := by
  simp [suitable_eq, ha]

/-- memory that did not come from an arena (OS segments) is never suitable for an arena-bound heap: a bound heap gets NULL instead of
    an OS fallback, and never adopts OS segments -/
theorem os_memory_not_for_bound_heap (kind : Nat) (id : Int) (ex mem : Nat) (req : Int) (hk : kind ≠ 6) (hreq : req ≠ _mi_arena_id_none) :
    _mi_arena_memid_is_suitable kind id ex mem req = 0 := by
  unfold _mi_arena_memid_is_suitable
  -- memory of kind ≠ `MI_MEM_ARENA` (6) is tested as arena "none", which a bound heap does not ask for
  rw [show Int.toNat (6 % 4294967296) = 6 from rfl, if_neg hk, suitable_eq,
    if_neg (fun h => h.elim (fun h => hreq h.2) (fun h => hreq h.symm))]

/-- a segment inside an exclusive arena is never suitable for a heap that is not bound to it (default heap, other arenas' heaps) -/
theorem exclusive_segment_rejected (id req : Int) (mem : Nat) (hne : id ≠ req) :
    _mi_arena_memid_is_suitable 6 id 1 mem req = 0 := by
  unfold _mi_arena_memid_is_suitable
  rw [show Int.toNat (6 % 4294967296) = 6 from rfl, if_pos rfl, suitable_eq, if_neg (fun h => h.elim (fun h => absurd h.1 (by decide)) hne)]

/-- memory handed to `mi_manage_os_memory_ex` is only used inside the bounds given: the arena starts at the aligned-up start and its
    `bcount = (size - diff) / 32 MiB` blocks end at or before `start + size` (arithmetic of mi_manage_os_memory_ex2 with the regenerated
    `_mi_align_up`) -/
theorem managed_region_bounds (start size : Nat) (hs : start + 33554432 < 2^64) (hfit : start + size < 2^64)
    (hbig : Gen._mi_align_up start 33554432 - start < size) :
    let astart := Gen._mi_align_up start 33554432
    let bcount := (size - (astart - start)) / 33554432
    start ≤ astart ∧ astart + bcount * 33554432 ≤ start + size := by
  have _ := hfit  -- (not needed)
  obtain ⟨h1, _, _⟩ := C16.align_up_spec start 33554432 (by decide) hs
  refine ⟨h1, ?_⟩
  have := Nat.div_mul_le_self (size - (Gen._mi_align_up start 33554432 - start)) 33554432
  omega

-- non-vacuity
example : mi_arena_id_is_suitable 3 1 3 = 1 ∧ mi_arena_id_is_suitable 3 1 0 = 0 ∧ mi_arena_id_is_suitable 3 0 0 = 1 := by decide

end C15
