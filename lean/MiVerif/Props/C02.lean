import MiVerif.Lemmas.DelayedReach
import MiVerif.Lemmas.DelayedSound
/-! C02 — no double hand-out or corruption under concurrent alloc and cross-thread free.
   Model: MiVerif/Model/Delayed.lean — one page, its owner thread and any number of in-flight remote frees, one
   transition per atomic operation of free.c / page.c (including failed and spurious weak CAS).  `Reach` is any finite
   interleaving.  The model is tied to the code by trace validation (Driver/DelayedValidate.lean: logs of the hooked
   real allocator under the deterministic scheduler are replayed through `exec`, proved sound w.r.t. `Step`). -/

namespace C02
open Delayed

/-- the invariant holds in every state of every interleaving -/
theorem inv_reachable {s0 s : St} (h0 : Inv s0) (hr : Reach s0 s) : Inv s :=
  inv_reach h0 hr

/-- conservation: in every reachable state every block is in exactly one place
    (page thread-free list, heap delayed list, owner's taken-over list, block in progress, free, local-free, live, or held by an in-flight free) -/
theorem conservation {s0 s : St} (h0 : Inv s0) (hr : Reach s0 s) : (allBlocks s).Nodup :=
  (inv_reach h0 hr).nodup

/-- no atomic step of any thread loses or invents a block -/
theorem step_keeps_blocks {s s' : St} (h : Step s s') (hi : Inv s) : ∀ b, b ∈ allBlocks s' ↔ b ∈ allBlocks s :=
  have _ := hi  -- (not needed: a step permutes the blocks of any state)
  fun _ => (step_perm h).mem_iff

/-- no double hand-out: the block an allocation is about to return is not live, not held by any in-flight free and on no other list -/
theorem malloc_fresh {s0 s : St} (h0 : Inv s0) (hr : Reach s0 s) {b : Blk} {rest : List Blk} (hf : s.free = b :: rest) :
    b ∉ s.live ∧ b ∉ held s.fl ∧ b ∉ s.tf ∧ b ∉ s.dl ∧ b ∉ s.pend ∧ b ∉ s.own.map (·.1) ∧ b ∉ s.lf ∧ b ∉ rest := by
  have hy := count_le_one (inv_reach h0 hr).nodup b
  rw [hf, List.count_cons_self] at hy
  simp only [← List.count_eq_zero]
  omega

/-- a block becomes live only by being popped from the head of the free list -/
theorem live_only_by_malloc {s s' : St} (h : Step s s') {b : Blk} (hb : b ∈ s'.live) (hnb : b ∉ s.live) :
    s.free.head? = some b := by
  cases h with
  | start _ _ | freeLocal _ _ => exact absurd (List.mem_of_mem_erase hb) hnb
  | malloc b' rest h =>
    rcases List.mem_cons.mp hb with rfl | hb
    · simp [h]
    · exact absurd hb hnb
  | _ => exact absurd hb hnb

/-- a freed block is handed out again at most once: after the allocation that returns `b`, `b` is on no list -/
theorem handed_out_once {s0 s : St} (h0 : Inv s0) (hr : Reach s0 s) {b : Blk} (hb : b ∈ s.live) :
    b ∉ s.free ∧ b ∉ s.lf ∧ b ∉ s.tf ∧ b ∉ s.dl ∧ b ∉ s.pend ∧ b ∉ held s.fl ∧ s.live.count b = 1 := by
  have hy := count_le_one (inv_reach h0 hr).nodup b
  have hl := List.count_pos_iff.mpr hb
  simp only [← List.count_eq_zero]
  omega

/-- the delayed-freeing state is held by exactly one in-flight free, in every reachable state -/
theorem freeing_flag_exclusive {s0 s : St} (h0 : Inv s0) (hr : Reach s0 s) :
    (s.flag = .freeing → nFreeing s.fl = 1) ∧ (s.flag ≠ .freeing → nFreeing s.fl = 0) :=
  (inv_reach h0 hr).freeing1

/-- every log accepted by the trace validator is an execution of the model, so all of the above hold along it -/
theorem accepted_log_is_execution {s : St} {ls : List Lbl} {s' : St} (h : ls.foldlM exec s = some s') : Reach s s' := by
  induction ls generalizing s with
  | nil => cases h; exact Reach.refl _
  | cons l ls ih =>
    rw [List.foldlM_cons] at h
    obtain ⟨t, he, ht⟩ := Option.bind_eq_some_iff.1 h
    exact Reach.head (exec_sound he) (ih ht)

/-- non-vacuity: a concrete initial state satisfies the invariant (40 live blocks, 24 free, nothing in flight) -/
example : Inv { tf := [], flag := .use, dl := [], pend := [], own := [], free := [40, 41, 42], lf := [], live := [0, 1, 2], fl := [] } := by
  refine ⟨by decide, by decide, ?_, ?_, by decide, by decide⟩ <;> simp

end C02
