import MiVerif.Gen.Entry
import MiVerif.Lemmas.EntryPoints
/-! C05 — re-allocation preserves contents and releases the old block exactly once.
   The decision logic of the realloc family (in place or move; what is copied, zeroed and freed) as
   regenerated from alloc.c / alloc-aligned.c (MiVerif/Gen/Entry.lean), over an arbitrary allocator core.
   The effect log lists, in order, the calls `_mi_memzero dst n`, `_mi_memcpy dst src n`, `mi_free p`. -/

namespace C05
open GenE

variable (gsp : Nat → Nat → Nat) (pmz : Nat → Nat → Nat → Nat → Nat) (gen : Nat → Nat → Nat → Nat → Nat)
  (us : Nat → Nat → Nat) (rdf : Nat → Nat) (pmzd pm : Nat → Nat → Nat → Nat) (bs : Nat → Nat) (ps : Nat)
  (ng : Nat → Nat → Nat → Nat) (pp : Nat → Nat)

/-- in place exactly when the new size fits and wastes at most 50%: same pointer, nothing copied or freed -/
theorem realloc_inplace (heap p newsize zero : Nat)
    (h : newsize ≤ us p 0 ∧ us p 0 / 2 ≤ newsize ∧ 0 < newsize) :
    _mi_heap_realloc_zero us gsp pmz gen heap p newsize zero = (p, []) := by
  rw [C06L.realloc_zero_eq rfl, if_pos h]

/-- otherwise a new block is allocated; if that succeeds (non-zeroing variant) the first min(old usable, new) bytes
    are copied and the old block is freed exactly once, after the copy -/
theorem realloc_moved (heap p newsize : Nat) (hp : p ≠ 0) (hn : 0 < newsize)
    (hnot : ¬ (newsize ≤ us p 0 ∧ us p 0 / 2 ≤ newsize ∧ 0 < newsize))
    (hnew : mi_heap_malloc gsp pmz gen heap newsize ≠ 0) :
    _mi_heap_realloc_zero us gsp pmz gen heap p newsize 0 =
      (mi_heap_malloc gsp pmz gen heap newsize,
       [("_mi_memcpy", [mi_heap_malloc gsp pmz gen heap newsize, p, min (us p 0) newsize]), ("mi_free", [p])]) := by
  rw [C06L.realloc_zero_eq rfl, if_neg hnot, if_pos hnew, if_pos hp, C06L.reallocInit,
    if_neg (by decide), if_neg (Nat.ne_of_gt hn)]
  rfl

/-- the old block is released at most once, and exactly when a different non-NULL pointer is returned for a non-NULL input -/
theorem realloc_frees_iff_moved (heap p newsize zero : Nat) :
    let r := _mi_heap_realloc_zero us gsp pmz gen heap p newsize zero
    (r.2.filter (fun e => e.1 == "mi_free")) = (if p ≠ 0 ∧ r.1 ≠ 0 ∧ ¬ (newsize ≤ us p 0 ∧ us p 0 / 2 ≤ newsize ∧ 0 < newsize) then [("mi_free", [p])] else []) := by
  intro r
  simp only [r, C06L.realloc_zero_eq rfl]
  by_cases hin : newsize ≤ us p 0 ∧ us p 0 / 2 ≤ newsize ∧ 0 < newsize
  · simp [hin]
  · by_cases hnew : mi_heap_malloc gsp pmz gen heap newsize = 0
    · simp [hin, hnew]
    · simp only [if_neg hin, if_pos hnew, List.filter_append, C06L.reallocInit_no_free, List.nil_append]
      by_cases hp : p = 0 <;> simp [hp, hnew, hin]

/-- a NULL input behaves as an allocation (usable size of NULL is 0); nothing is copied or freed -/
theorem realloc_null_is_malloc (heap newsize : Nat) (hus : us 0 0 = 0) :
    (_mi_heap_realloc_zero us gsp pmz gen heap 0 newsize 0).1 = mi_heap_malloc gsp pmz gen heap newsize ∧
    ∀ e ∈ (_mi_heap_realloc_zero us gsp pmz gen heap 0 newsize 0).2, e.1 ≠ "mi_free" ∧ e.1 ≠ "_mi_memcpy" := by
  rw [C06L.realloc_zero_eq rfl, if_neg (by rw [hus]; omega)]
  refine ⟨rfl, ?_⟩
  by_cases hnew : mi_heap_malloc gsp pmz gen heap newsize = 0
  · simp [hnew]
  · by_cases hn : newsize = 0 <;> simp [hnew, C06L.reallocInit, hn]

/-- a zero size still allocates a (minimal) block and releases the old one -/
theorem realloc_zero_size (heap p : Nat) (hp : p ≠ 0) (hnew : mi_heap_malloc gsp pmz gen heap 0 ≠ 0) :
    (_mi_heap_realloc_zero us gsp pmz gen heap p 0 0).1 = mi_heap_malloc gsp pmz gen heap 0 ∧
    ("mi_free", [p]) ∈ (_mi_heap_realloc_zero us gsp pmz gen heap p 0 0).2 := by
  rw [C06L.realloc_zero_eq rfl, if_neg (by omega), if_pos hnew, if_pos hp]
  simp

/-- mi_expand never moves a block … -/
theorem expand_never_moves (p newsize : Nat) : mi_expand us p newsize = p ∨ mi_expand us p newsize = 0 := by
  unfold mi_expand
  by_cases hp : p = 0
  · simp [hp]
  · by_cases hn : newsize > us p 0 <;> simp [hp, hn]

/-- … and succeeds exactly up to the usable size -/
theorem expand_ok_iff (p newsize : Nat) (hp : p ≠ 0) : mi_expand us p newsize = p ↔ newsize ≤ us p 0 := by
  unfold mi_expand
  by_cases hn : newsize > us p 0
  · simp only [if_neg hp, if_pos hn]
    exact ⟨fun e => absurd e.symm hp, fun e => absurd e (Nat.not_le_of_gt hn)⟩
  · simp only [if_neg hp, if_neg hn]
    exact ⟨fun _ => Nat.le_of_not_gt hn, fun _ => trivial⟩

/-- aligned variant, alignment > 8: in place only if it fits, wastes < 50% and (p+offset) is still aligned -/
theorem realloc_aligned_inplace (heap p newsize alignment offset zero : Nat) (ha : 8 < alignment) (hp : p ≠ 0)
    (h : newsize ≤ us p 0 ∧ (us p 0 + 2^64 - us p 0 / 2) % 2^64 ≤ newsize ∧ ((p + offset) % 2^64) % alignment = 0) :
    mi_heap_realloc_zero_aligned_at us gsp pmz gen rdf pmzd pm bs ps ng pp heap p newsize alignment offset zero = (p, []) := by
  rw [C06L.realloc_aligned_eq ha hp rfl, if_pos h]

/-- aligned variant: a failing re-allocation leaves the old block alone (no free, no copy of the old block) -/
theorem realloc_aligned_fail_keeps_old (heap p newsize alignment offset zero : Nat) (ha : 8 < alignment) (hp : p ≠ 0)
    (hnot : ¬ (newsize ≤ us p 0 ∧ (us p 0 + 2^64 - us p 0 / 2) % 2^64 ≤ newsize ∧ ((p + offset) % 2^64) % alignment = 0))
    (hfail : (mi_heap_malloc_aligned_at gsp rdf pmzd pm bs ps ng pmz gen pp us heap newsize alignment offset).1 = 0) :
    (mi_heap_realloc_zero_aligned_at us gsp pmz gen rdf pmzd pm bs ps ng pp heap p newsize alignment offset zero).1 = 0 ∧
    (mi_heap_realloc_zero_aligned_at us gsp pmz gen rdf pmzd pm bs ps ng pp heap p newsize alignment offset zero).2 =
      (mi_heap_malloc_aligned_at gsp rdf pmzd pm bs ps ng pmz gen pp us heap newsize alignment offset).2 := by
  rw [C06L.realloc_aligned_eq ha hp rfl, if_neg hnot, if_neg (fun h => h hfail), List.append_nil]
  exact ⟨hfail, rfl⟩

/-- aligned variant: on a successful move the copy of min(old usable, new) bytes precedes the single free of the old block -/
theorem realloc_aligned_moved (heap p newsize alignment offset : Nat) (ha : 8 < alignment) (hp : p ≠ 0)
    (hnot : ¬ (newsize ≤ us p 0 ∧ (us p 0 + 2^64 - us p 0 / 2) % 2^64 ≤ newsize ∧ ((p + offset) % 2^64) % alignment = 0))
    (hok : (mi_heap_malloc_aligned_at gsp rdf pmzd pm bs ps ng pmz gen pp us heap newsize alignment offset).1 ≠ 0) :
    let a := mi_heap_malloc_aligned_at gsp rdf pmzd pm bs ps ng pmz gen pp us heap newsize alignment offset
    mi_heap_realloc_zero_aligned_at us gsp pmz gen rdf pmzd pm bs ps ng pp heap p newsize alignment offset 0 =
      (a.1, a.2 ++ [("_mi_memcpy_aligned", [a.1, p, min (us p 0) newsize]), ("mi_free", [p])]) := by
  rw [C06L.realloc_aligned_eq ha hp rfl, if_neg hnot, if_pos hok]
  rfl

/-- non-vacuity -/
example : (100 : Nat) ≤ 112 ∧ 112 / 2 ≤ 100 ∧ 0 < 100 := by decide

end C05
