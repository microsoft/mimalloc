import MiVerif.Gen.ArenaGen
import MiVerif.Gen.Commit
import MiVerif.Model.Purge
/-! C18 — unused memory is purged after the configured delay without a forced collect.
   Model: MiVerif/Model/Purge.lean; every purge decision (`if`) in it is the predicate
   regenerated from arena.c / segment.c (MiVerif/Gen/Purge.lean), so a changed comparison changes these theorems'
   subject.  Times are milliseconds of the virtual clock (non-negative integers); `delay` is
   purge_delay * arena_purge_mult for arenas and purge_delay for segments. -/

namespace C18
open PurgeM

/-! what the regenerated guards say for a non-forced attempt (`force = 0`) -/
theorem arenasTryPurge_skip_iff (e now : Int) : Gen.arenasTryPurge_skip 0 e now = true ↔ e = 0 ∨ now < e := by
  simp only [Gen.arenasTryPurge_skip, ne_eq, not_true_eq_false, not_false_eq_true, true_and, decide_eq_true_eq, gt_iff_lt]
theorem arenaTryPurge_skip_iff (e now : Int) : Gen.arenaTryPurge_skip 0 e now = true ↔ e = 0 ∨ now < e := by
  simp only [Gen.arenaTryPurge_skip, ne_eq, not_true_eq_false, not_false_eq_true, true_and, decide_eq_true_eq, gt_iff_lt]
theorem segTryPurge_skip_iff (now : Int) (seg : Nat) (e : Int) : Gen.segTryPurge_skip 0 now seg e = true ↔ now < e := by
  simp only [Gen.segTryPurge_skip, ne_eq, not_true_eq_false, not_false_eq_true, true_and, decide_eq_true_eq]

/-- invariant of the arena expiry bookkeeping (one arena, sequential use) -/
structure AInv (delay : Int) (s : ASt) : Prop where
  same : s.gexp = s.aexp
  pend : s.pend = true → s.aexp = s.first + delay ∧ 0 ≤ s.first
  npend : s.pend = false → s.aexp = 0

theorem a0_inv (delay : Int) : AInv delay a0 := ⟨rfl, (fun h => by cases h), fun _ => rfl⟩

theorem aSchedule_inv {delay now : Int} {s : ASt} (hd : 0 < delay) (hn : 0 ≤ now) (h : AInv delay s) :
    AInv delay (aSchedule delay now s).1 := by
  obtain ⟨h1, h2, h3⟩ := h
  unfold aSchedule
  have e1 : Gen.arenaSchedule_never delay = false := decide_eq_false (by omega)
  have e2 : Gen.arenaSchedule_now delay 0 = false := decide_eq_false (by omega)
  simp only [e1, e2, Bool.false_eq_true, if_false]
  by_cases ha : s.aexp = 0
  · have hg : s.gexp = 0 := h1.trans ha
    have hp : s.pend = false := Bool.eq_false_iff.2 fun hp => by have := h2 hp; omega
    simp only [ha, hg, hp, if_true, Bool.false_eq_true, if_false]
    exact ⟨rfl, fun _ => ⟨rfl, hn⟩, (fun h => by cases h)⟩
  · simp only [ha, if_false]
    refine ⟨h1, fun _ => ?_, (fun h => by cases h)⟩
    cases hp : s.pend
    · exact absurd (h3 hp) ha
    · exact h2 hp

/-- when the two expiry fields agree, so do the skip guards of `mi_arenas_try_purge` and `mi_arena_try_purge` -/
theorem aTryPurge_eq (delay now : Int) {s : ASt} (h : s.gexp = s.aexp) :
    aTryPurge delay now s =
      if delay ≤ 0 ∨ s.aexp = 0 ∨ now < s.aexp then (s, false) else ({ aexp := 0, gexp := 0, pend := false, first := s.first }, s.pend) := by
  unfold aTryPurge
  by_cases hd : delay ≤ 0
  · rw [if_pos hd, if_pos (Or.inl hd)]
  · by_cases he : s.aexp = 0 ∨ now < s.aexp
    · rw [if_neg hd, h, if_pos ((arenasTryPurge_skip_iff _ _).2 he), if_pos (Or.inr he)]
    · rw [if_neg hd, h, if_neg (mt (arenasTryPurge_skip_iff _ _).1 he), if_neg (mt (arenaTryPurge_skip_iff _ _).1 he),
        if_neg (fun hc => hc.elim hd he)]

theorem aTryPurge_inv {delay now : Int} {s : ASt} (h : AInv delay s) : AInv delay (aTryPurge delay now s).1 := by
  rw [aTryPurge_eq delay now h.same]
  split
  · exact h
  · exact ⟨rfl, (fun h => by cases h), fun _ => rfl⟩

/-- **arena purge happens**: blocks scheduled at `first` are purged by the first non-forced attempt
    (`_mi_arena_free`, `mi_collect(false)`) at or after `first + delay` — no forced collect needed -/
theorem arena_purge_due {delay now : Int} {s : ASt} (hd : 0 < delay) (h : AInv delay s)
    (hp : s.pend = true) (hnow : s.first + delay ≤ now) :
    (aTryPurge delay now s).1.pend = false ∧ (aTryPurge delay now s).2 = true := by
  have ha := h.pend hp
  rw [aTryPurge_eq delay now h.same, if_neg (by omega)]
  exact ⟨rfl, hp⟩

/-- and nothing is purged before the delay has passed -/
theorem arena_purge_not_early {delay now : Int} {s : ASt} (h : AInv delay s)
    (hp : s.pend = true) (hnow : now < s.first + delay) : aTryPurge delay now s = (s, false) := by
  have ha := h.pend hp
  rw [aTryPurge_eq delay now h.same, if_pos (by omega)]

inductive AOp where
  | free (t : Int)       -- a committed range is freed to the arena at time t (`_mi_arena_free`)
  | attempt (t : Int)    -- non-forced `mi_collect` / other call of `mi_arenas_try_purge(false, _)` at time t

def aStep (delay : Int) (s : ASt) : AOp → ASt
  | .free t => (aFree delay t s).1
  | .attempt t => (aTryPurge delay t s).1

/-- the invariant holds in every state reachable by frees and non-forced attempts at non-negative times -/
theorem arena_reachable_inv (delay : Int) (hd : 0 < delay) (ops : List AOp)
    (ht : ∀ op ∈ ops, match op with | .free t => 0 ≤ t | .attempt t => 0 ≤ t) :
    AInv delay (ops.foldl (aStep delay) a0) :=
  List.foldlRecOn ops (aStep delay) (a0_inv delay) fun s h op hop => by
    cases op with
    | free t => exact aTryPurge_inv (aSchedule_inv hd (ht _ hop) h)
    | attempt t => exact aTryPurge_inv h

/-- delay 0: freed memory is purged as soon as it becomes unused (arena and segment) -/
theorem delay0_immediate (now extend : Int) (a : ASt) (s : SSt) :
    (aSchedule 0 now a).2 = true ∧ (sSchedule 0 extend now s).2 = true := by
  refine ⟨?_, ?_⟩
  · simp [aSchedule, Gen.arenaSchedule_never, Gen.arenaSchedule_now]
  · simp [sSchedule]

/-- delay −1: the purge machinery never purges and never even schedules -/
theorem delay_neg_never (delay now extend : Int) (hd : delay < 0) (a : ASt) (s : SSt) :
    aSchedule delay now a = (a, false) ∧ aTryPurge delay now a = (a, false) ∧ sSchedule delay extend now s = (s, false) := by
  refine ⟨?_, ?_, ?_⟩
  · simp [aSchedule, Gen.arenaSchedule_never, hd]
  · simp [aTryPurge]; omega
  · simp [sSchedule, hd]

/-- **segment purge happens**: a pending purge whose expiry has passed is carried out by the next non-forced
    `mi_segment_try_purge` (called from page free / page allocation / collect on that segment) -/
theorem segment_purge_due (now : Int) (s : SSt) (hp : s.pend = true) (he : 0 < s.expire) (hnow : s.expire ≤ now) :
    sTryPurge now s = ({ expire := 0, pend := false }, true) := by
  unfold sTryPurge
  have e0 : ¬ (s.expire = 0 ∨ s.pend = false) := by simp [hp]; omega
  have e1 : Gen.segTryPurge_skip 0 now 0 s.expire = false := by rw [Bool.eq_false_iff, Ne, segTryPurge_skip_iff]; omega
  simp only [e0, e1, if_false, Bool.false_eq_true]

theorem segment_purge_not_early (now : Int) (s : SSt) (hnow : now < s.expire) : sTryPurge now s = (s, false) := by
  unfold sTryPurge
  split
  · rfl
  · simp only [(segTryPurge_skip_iff now 0 s.expire).2 hnow, if_true]

/-- the three values to which `mi_segment_schedule_purge` may set an expiry `e` -/
theorem expiry_candidates_le (e now delay ext : Int) :
    now + delay ≤ max e now + max delay ext ∧ now + ext ≤ max e now + max delay ext ∧ e + ext ≤ max e now + max delay ext :=
  ⟨Int.add_le_add (Int.le_max_right ..) (Int.le_max_left ..), Int.add_le_add (Int.le_max_right ..) (Int.le_max_right ..),
    Int.add_le_add (Int.le_max_left ..) (Int.le_max_right ..)⟩

/-- scheduling keeps "pending ⇒ a positive expiry is set", and every schedule moves the expiry at most
    `max delay extend` beyond `max (old expiry) now`: frees can postpone a purge only by the configured amounts -/
theorem segment_schedule_bound (delay extend now : Int) (s : SSt) (hd : 0 < delay) (he : 0 ≤ extend) (hn : 0 ≤ now)
    (hext : extend < 2^62) (hnow : now < 2^62) (hexp : s.expire < 2^62) (hexp0 : 0 ≤ s.expire)
    (hinv : s.pend = true → 0 < s.expire) :
    ((sSchedule delay extend now s).1.pend = true → 0 < (sSchedule delay extend now s).1.expire) ∧
    (sSchedule delay extend now s).1.expire ≤ max s.expire now + max delay extend := by
  have _ := hinv; have _ := hext; have _ := hnow; have _ := hexp  -- (not needed)
  -- the new expiry is one of the three candidates, or the purge is carried out at once
  obtain ⟨b1, b2, b3⟩ := expiry_candidates_le s.expire now delay extend
  generalize max s.expire now + max delay extend = M at b1 b2 b3 ⊢
  unfold sSchedule
  let P : SSt × Bool → Prop := fun r => (r.1.pend = true → 0 < r.1.expire) ∧ r.1.expire ≤ M
  have set : ∀ e : Int, 0 < e → e ≤ M → P ({ expire := e, pend := true }, false) :=
    fun _ h1 h2 => ⟨fun _ => h1, h2⟩
  refine iteInduction (motive := P) (fun hc => absurd hc (by omega)) fun _ => ?_
  refine iteInduction (motive := P) (fun hc => absurd hc (by omega)) fun _ => ?_
  refine iteInduction (motive := P) (fun _ => set _ (by omega) b1) fun hf => ?_
  have hf' : s.expire ≠ 0 := fun h0 => hf (decide_eq_true h0)
  refine iteInduction (motive := P) (fun hx => ?_) fun _ => set _ (by omega) b3
  have hx' : s.expire ≤ now := of_decide_eq_true hx
  refine iteInduction (motive := P) (fun _ => ?_) (fun _ => set _ (by omega) b2)
  unfold sForcePurge
  exact iteInduction (motive := P) (fun hc => absurd hc (by simp [hf'])) (fun _ => ⟨fun h => (nomatch h), by show (0 : Int) ≤ _; omega⟩)

-- non-vacuity: the witness history "free at 0 with delay 10, attempt at 20" satisfies the hypotheses and purges
example : AInv 10 (aFree 10 0 a0).1 ∧ (aFree 10 0 a0).1.pend = true ∧ (aTryPurge 10 20 (aFree 10 0 a0).1).2 = true := by
  refine ⟨⟨by decide, fun _ => by decide, (fun h => by revert h; decide)⟩, by decide, by decide⟩
example : sTryPurge 15 (sSchedule 10 1 0 s0).1 = ({ expire := 0, pend := false }, true) := by decide

/-- the same bound over `mi_segment_schedule_purge` as *generated from src/segment.c* (Gen/Commit.lean): every schedule with a positive
    delay moves the expiry at most `max delay extend` beyond `max (old expiry) now` and never makes it negative -/
theorem generated_segment_schedule_bound (σ : GenC.SegSt) (p size delay now ext : Int) (nr og : Bool) (tp : GenC.SegSt → GenC.SegSt)
    (hd : 0 < delay) (he : 0 ≤ ext) (hn : 0 < now) (hexp : 0 ≤ σ.expire) (htp : ∀ τ, (tp τ).expire = 0) :
    (GenC.mi_segment_schedule_purge σ p size delay nr og now ext tp).expire ≤ max σ.expire now + max delay ext ∧
    0 ≤ (GenC.mi_segment_schedule_purge σ p size delay nr og now ext tp).expire := by
  -- the expiry stays, becomes one of the three candidates, or is what `tp` leaves
  obtain ⟨b1, b2, b3⟩ := expiry_candidates_le σ.expire now delay ext
  generalize max σ.expire now + max delay ext = M at b1 b2 b3 ⊢
  unfold GenC.mi_segment_schedule_purge
  let P : GenC.SegSt → Prop := fun τ => τ.expire ≤ M ∧ 0 ≤ τ.expire
  have h0 : P σ := ⟨Int.le_trans (Int.le_add_of_nonneg_right he) b3, hexp⟩
  have set : ∀ (τ : GenC.SegSt) (e : Int), 0 ≤ e → e ≤ M → P { τ with expire := e } :=
    fun _ _ h1 h2 => ⟨h2, h1⟩
  refine iteInduction (motive := P) (fun _ => h0) fun _ => ?_
  refine iteInduction (motive := P) (fun hc => absurd (of_decide_eq_true hc) (by omega)) fun _ => ?_
  refine iteInduction (motive := P) (fun _ => h0) fun _ => ?_
  refine iteInduction (motive := P) (fun _ => set _ _ (by omega) b1) fun _ => ?_
  refine iteInduction (motive := P) (fun _ => ?_) (fun _ => set _ _ (Int.add_nonneg hexp he) b3)
  refine iteInduction (motive := P) (fun _ => ?_) (fun _ => set _ _ (by omega) b2)
  show (tp _).expire ≤ _ ∧ 0 ≤ (tp _).expire
  rw [htp]
  exact ⟨by omega, Int.le_refl 0⟩

/-- ... and the first registration of a purge (no expiry pending, the range contains a whole commit unit) expires exactly `delay` after now -/
theorem generated_segment_first_registration (σ : GenC.SegSt) (p size delay now ext : Int) (nr og : Bool) (tp : GenC.SegSt → GenC.SegSt)
    (hd : 0 < delay) (hallow : σ.allowPurge = true) (h0 : σ.expire = 0)
    (hne : (GenC.mEmpty (GenC.commitMask σ 1 p size).2.2 || decide ((GenC.commitMask σ 1 p size).2.1 = 0)) = false) :
    (GenC.mi_segment_schedule_purge σ p size delay nr og now ext tp).expire = now + delay := by
  unfold GenC.mi_segment_schedule_purge
  have hd0 : ¬ (delay = 0) := by omega
  simp only [hallow, Bool.not_true, Bool.false_eq_true, if_false, decide_eq_true_eq, hd0, hne, h0, if_true]

/-- over `mi_arena_schedule_purge` as *generated from src/arena.c* (Gen/ArenaGen.lean): with a positive delay a pending arena expiry is never
    changed by a later free, and a new one is exactly `now + delay` — so freed arena memory becomes due `delay` after the FIRST free -/
theorem generated_arena_schedule_expire (σ : GenR.ArSt) (idx n delay : Int) (nr1 g1 nr2 g2 : Bool) (now : Int) (hd : 0 < delay) :
    (GenR.mi_arena_schedule_purge σ idx n delay false nr1 g1 nr2 g2 now).expire = (if σ.expire = 0 then now + delay else σ.expire) := by
  unfold GenR.mi_arena_schedule_purge
  refine iteInduction (motive := fun τ : GenR.ArSt => τ.expire = _) (fun hc => absurd (of_decide_eq_true hc) (by omega)) fun _ => ?_
  refine iteInduction (motive := fun τ : GenR.ArSt => τ.expire = _) (fun hc => absurd (of_decide_eq_true hc) (by omega)) fun _ => ?_
  refine iteInduction (motive := fun τ : GenR.ArSt => τ.expire = _) (fun hc => ?_) (fun hc => ?_)
  · rw [if_pos (of_decide_eq_true hc)]
    exact iteInduction (motive := fun τ : GenR.ArSt => ({ τ with purge := GenR.mSet τ.purge idx n } : GenR.ArSt).expire = now + delay) (fun _ => rfl) (fun _ => rfl)
  · rw [if_neg (fun h => hc (decide_eq_true h))]

end C18
