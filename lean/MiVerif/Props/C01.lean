import MiVerif.Lemmas.PageReach
import MiVerif.Lemmas.SegOps
import MiVerif.Lemmas.ExtendLoop
import MiVerif.Lemmas.PageStart
/-! C01 — live blocks are disjoint, fully accessible and keep their contents (sequential bookkeeping).
   Models: MiVerif/Model/Page.lean (the three free lists of a page) and MiVerif/Model/Segment.lean
   (slice map and span queues of a segment); both are compared with the real functions of the current tree by direct drive
   (harness/c01.c: page micro-steps and span operations, state after every operation) and their invariants are evaluated on
   snapshots of real pages during long API histories (T2b).  The composition "every API call is a sequence of these micro-steps" is
   the tested part; the implementation-side shadow oracle (harness/seq.c) checks overlap and contents on the real allocator. -/

namespace C01
open PageM

/-- every state of a page reachable by any sequence of micro-operations (pop, local free, remote free, take-over of the remote
    list, collect, forced collect, extension within `reserved`) satisfies the list invariant: every block index below `capacity`
    is in exactly one of {free, local_free, thread_free, live} -/
theorem page_invariant_reachable (reserved : Nat) (ops : List Op) : Inv (ops.foldl step (init reserved)) :=
  List.foldlRecOn ops step (init_inv reserved) fun p h op _ => step_inv p h op

/-- the block an allocation pops was not live before (no double hand-out), and it is on no list afterwards -/
theorem malloc_fresh (p : Page) (h : Inv p) (b : Blk) (p' : Page) (hp : pop p = some (b, p')) :
    b ∉ p.live ∧ b ∈ p'.live ∧ b ∉ p'.free ∧ b ∉ p'.lf ∧ b ∉ p'.tf := by
  obtain ⟨hfresh, hinv⟩ := pop_fresh p h b p' hp
  have hmem : b ∈ p'.live := by
    obtain ⟨r, _, rfl⟩ := pop_some hp
    exact List.mem_cons_self
  exact ⟨hfresh, hmem, hinv.live_not_free hmem⟩

/-- a block is never on a free list while it is live -/
theorem live_not_free (p : Page) (h : Inv p) (b : Blk) (hb : b ∈ p.live) : b ∉ p.free ∧ b ∉ p.lf ∧ b ∉ p.tf :=
  h.live_not_free hb

/-- two different live blocks of one page occupy disjoint byte ranges inside the page's block area -/
theorem live_blocks_disjoint (p : Page) (h : Inv p) (start bsize area i j : Nat) (hi : i ∈ p.live) (hj : j ∈ p.live) (hij : i ≠ j)
    (harea : p.reserved * bsize ≤ area) :
    (blockAddr start bsize i + bsize ≤ blockAddr start bsize j ∨ blockAddr start bsize j + bsize ≤ blockAddr start bsize i) ∧
    blockAddr start bsize i + bsize ≤ start + area ∧ start ≤ blockAddr start bsize i := by
  have _ := hj  -- (not needed)
  refine ⟨?_, h.live_in_area hi start bsize harea, Nat.le_add_right _ _⟩
  rcases Nat.lt_or_gt_of_ne hij with hlt | hgt
  · exact Or.inl (blocks_disjoint start bsize i j hlt)
  · exact Or.inr (blocks_disjoint start bsize j i hgt)

/-- the used counter is exact: `used - |thread_free|` is the number of live blocks (types.h l.302) -/
theorem used_exact (p : Page) (h : Inv p) : p.used - p.tf.length = p.live.length := by have := h.used; omega

open SegM in
/-- the spans of a segment (pages and free spans) tile the slice array: two different spans never share a slice -/
theorem spans_disjoint (g : Seg) (sp : List Span) (hr : Repr g sp) :
    ∀ x ∈ sp, ∀ y ∈ sp, x = y ∨ x.1 + x.2.1 ≤ y.1 ∨ y.1 + y.2.1 ≤ x.1 := hr.chain.disjoint

open SegM in
/-- page areas of two different spans are disjoint byte ranges inside the segment (slice `k` is `S + k * 64 KiB`) -/
theorem span_areas_disjoint (S sl : Nat) (x y : Span) (h : x.1 + x.2.1 ≤ y.1) : S + (x.1 + x.2.1) * sl ≤ S + y.1 * sl := by
  have := Nat.mul_le_mul_right sl h; omega

/-- **composition, same segment**: live blocks of two different pages of one segment are disjoint: the pages lie in different spans
    (`spans_disjoint`), each page's block area lies inside its span, and each live block lies inside its page's block area -/
theorem live_blocks_of_two_pages_disjoint (p q : Page) (hp : Inv p) (hq : Inv q) (S sl : Nat) (x y : SegM.Span) (hxy : x.1 + x.2.1 ≤ y.1)
    (startp bsp startq bsq i j : Nat) (hi : i ∈ p.live) (hj : j ∈ q.live)
    (hpa : startp + p.reserved * bsp ≤ S + (x.1 + x.2.1) * sl) (hqa : S + y.1 * sl ≤ startq) :
    blockAddr startp bsp i + bsp ≤ blockAddr startq bsq j := by
  have _ := hj; have _ := hq
  have hin := hp.live_in_area hi startp bsp (Nat.le_refl _)
  have hspans := span_areas_disjoint S sl x y hxy
  have hstart : startq ≤ blockAddr startq bsq j := Nat.le_add_right _ _
  omega

/-- **composition, different segments**: segments are `segSize`-aligned regions of `segSize` bytes, so blocks inside two different
    segments are disjoint whatever the pages are -/
theorem live_blocks_of_two_segments_disjoint (segSize s1 s2 a1 n1 a2 : Nat) (h12 : s1 < s2)
    (h1 : a1 + n1 ≤ s1 * segSize + segSize) (h2 : s2 * segSize ≤ a2) : a1 + n1 ≤ a2 := by
  have hnext : (s1 + 1) * segSize ≤ s2 * segSize := Nat.mul_le_mul_right segSize h12
  rw [Nat.succ_mul] at hnext
  omega

open SegM in
/-- allocating a page in a free span writes exactly the entries of that span: the new span is well formed and every span
    disjoint from it keeps its entries (so no other page's back-pointers are touched) -/
theorem span_allocate_ok_frame (g : Seg) (s c : Nat) (hc : 0 < c) (hfit : s + c ≤ g.entries) (hsz : g.slices.size = g.entries + 1) :
    SpanOk (spanAllocate g s c) (s, c, true) ∧
    ∀ y : Span, 0 < y.2.1 → (y.1 + y.2.1 ≤ s ∨ s + c ≤ y.1) → SpanOk g y → SpanOk (spanAllocate g s c) y :=
  ⟨spanAllocate_ok g s c hc hfit hsz, fun y hy hd hok => spanAllocate_frame g s c hc hfit hsz y hy hd hok⟩

open SegM in
/-- freeing a span likewise -/
theorem span_free_ok_frame (g : Seg) (s c : Nat) (hc : 0 < c) (hfit : s + c ≤ g.entries) (hsz : g.slices.size = g.entries + 1) :
    SpanOk (spanFree g s c) (s, c, false) ∧
    ∀ y : Span, 0 < y.2.1 → (y.1 + y.2.1 ≤ s ∨ s + c ≤ y.1) → SpanOk g y → SpanOk (spanFree g s c) y :=
  ⟨spanFree_ok g s c hc hfit hsz, fun y hy hd hok => spanFree_frame g s c hc hfit hsz y hy hd hok⟩

open SegM in
/-- coalescing a freed page with a free successor keeps the representation invariant: the two spans become one free span and all
    other spans are untouched -/
theorem coalesce_with_next (g : Seg) (pre post : List Span) (s c nc : Nat) (u : Bool)
    (hr : Repr g (pre ++ (s, c, u) :: (s + c, nc, false) :: post)) (hn : coNext g s = true) (hp : coPrev g s = false) :
    Repr (coalesce g s).1 (pre ++ (s, c + nc, false) :: post) := coalesce_next_repr g pre post s c nc u hr hn hp

open SegM in
/-- freeing a page whose neighbours are both in use: only the flag of its span changes -/
theorem coalesce_alone (g : Seg) (pre post : List Span) (s c : Nat) (u : Bool)
    (hr : Repr g (pre ++ (s, c, u) :: post)) (hn : coNext g s = false) (hp : coPrev g s = false) :
    Repr (coalesce g s).1 (pre ++ (s, c, false) :: post) := by
  obtain ⟨hpre, _ | ⟨hc, hpost⟩⟩ := hr.chain.split_at
  rw [coalesce_none g s hn hp (hr.count (c := c) (u := u) (by simp))]
  exact (hr.hole (old := [_]) hpre hpost).spanFree hc rfl

open SegM in
/-- ... with a free predecessor: the merged free span starts at the predecessor (found through the back offset of its last slice) -/
theorem coalesce_with_prev (g : Seg) (pre post : List Span) (ps pc c : Nat) (u : Bool)
    (hr : Repr g (pre ++ (ps, pc, false) :: (ps + pc, c, u) :: post)) (hn : coNext g (ps + pc) = false) (hp : coPrev g (ps + pc) = true) :
    Repr (coalesce g (ps + pc)).1 (pre ++ (ps, pc + c, false) :: post) := by
  obtain ⟨hpre, _ | ⟨hpc, _ | ⟨hc, hpost⟩⟩⟩ := hr.chain.split_at
  have hx := hr.ok (ps, pc, false) (by simp)
  rw [coalesce_prev g (ps + pc) hn hp (hr.count (c := c) (u := u) (by simp)) (sliceFirst_prev hpc hx) hx.1, Nat.add_comm c pc]
  exact hr.hole (old := [_, _]) hpre hpost
    |>.write (set_eqOutside (by omega) (by omega))
    |>.write (queueDelete_eqOutside (by omega) (by omega))
    |>.spanFree (by omega) (by omega)

open SegM in
/-- ... between two free spans: all three merge -/
theorem coalesce_with_both (g : Seg) (pre post : List Span) (ps pc c nc : Nat) (u : Bool)
    (hr : Repr g (pre ++ (ps, pc, false) :: (ps + pc, c, u) :: (ps + pc + c, nc, false) :: post))
    (hn : coNext g (ps + pc) = true) (hp : coPrev g (ps + pc) = true) :
    Repr (coalesce g (ps + pc)).1 (pre ++ (ps, pc + c + nc, false) :: post) := by
  obtain ⟨hpre, _ | ⟨hpc, _ | ⟨hc, _ | ⟨hnc, hpost⟩⟩⟩⟩ := hr.chain.split_at
  have hx := hr.ok (ps, pc, false) (by simp)
  rw [coalesce_both g (ps + pc) hn hp (hr.count (c := c) (u := u) (by simp)) (hr.count (c := nc) (u := false) (by simp))
      (sliceFirst_prev hpc hx) hx.1 hc,
    show c + nc + pc = pc + c + nc by omega]
  exact hr.hole (old := [_, _, _]) hpre hpost
    |>.write (queueDelete_eqOutside (by omega) (by omega))
    |>.write (set_eqOutside (by omega) (by omega))
    |>.write (queueDelete_eqOutside (by omega) (by omega))
    |>.spanFree (by omega) (by omega)

open SegM in
/-- **allocating a page keeps the tiling**: taking `k` slices at the start of any free span of a well-formed segment (exact fit or
    split; this is what mi_segments_page_find_and_allocate does with the span its queue search returns, `findAndAllocate_is_allocAt`)
    leaves a well-formed segment in which `(s, k)` is a page -/
theorem page_alloc_keeps_tiling (g : Seg) (sp : List Span) (s c k : Nat) (hr : Repr g sp) (hm : (s, c, false) ∈ sp) (hk : 0 < k) (hkc : k ≤ c) :
    ∃ sp', Repr (allocAt g s k) sp' ∧ (s, k, true) ∈ sp' := by
  obtain ⟨pre, post, rfl⟩ := List.append_of_mem hm
  by_cases he : k = c
  · subst he
    exact ⟨_, allocate_exact_repr g pre post s k hr, by simp⟩
  · exact ⟨_, allocate_split_repr g pre post s c k hk (by omega) hr, by simp⟩

open SegM in
/-- **freeing a page keeps the tiling**, whatever its neighbours are: the tests the code makes on the neighbours (next slice's block
    size, first slice of the previous span through the back offset) are determined by the invariant (`coNext_eq`, `coPrev_eq`), and
    each of the four outcomes (no merge, merge with next, with previous, with both) re-establishes it -/
theorem page_free_keeps_tiling (g : Seg) (sp : List Span) (s c : Nat) (u : Bool) (hr : Repr g sp) (hm : (s, c, u) ∈ sp) :
    ∃ sp', Repr (coalesce g s).1 sp' := by
  obtain ⟨pre, post, rfl⟩ := List.append_of_mem hm
  cases hn : coNext g s <;> cases hp : coPrev g s
  · exact ⟨_, coalesce_alone g pre post s c u hr hn hp⟩
  · obtain ⟨ps, pc, pre', rfl, rfl⟩ := coPrev_true hr hp
    exact ⟨_, coalesce_with_prev g pre' post ps pc c u (by simpa using hr) hn hp⟩
  · obtain ⟨nc, post', rfl⟩ := coNext_true hr hn
    exact ⟨_, coalesce_with_next g pre post' s c nc u hr hn hp⟩
  · obtain ⟨ps, pc, pre', rfl, rfl⟩ := coPrev_true hr hp
    obtain ⟨nc, post', rfl⟩ := coNext_true hr hn
    exact ⟨_, coalesce_with_both g pre' post' ps pc c nc u (by simpa using hr) hn hp⟩

open SegM in
theorem step_keeps_tiling {g : Seg} {op : SegOp} (hen : op.enabled g) : ∃ sp, Repr (segStep g op) sp := by
  cases op with
  | alloc s k =>
    obtain ⟨sp, c, hr, hm, hk, hkc⟩ := hen
    obtain ⟨sp', hr', _⟩ := page_alloc_keeps_tiling g sp s c k hr hm hk hkc
    exact ⟨sp', hr'⟩
  | free s =>
    obtain ⟨sp, c, u, hr, hm⟩ := hen
    exact page_free_keeps_tiling g sp s c u hr hm

open SegM in
/-- **every reachable segment state is tiled by disjoint spans**: from a fresh segment, after any sequence of page allocations and
    page frees, the slice array has a representation by spans that tile it (so no two pages ever share a slice: `spans_disjoint`) -/
theorem segment_tiling_reachable (entries info : Nat) (hi : 0 < info) (hie : info < entries) (ops : List SegOp)
    (hok : SegOpsOk (init entries info) ops) : ∃ sp, Repr (ops.foldl segStep (init entries info)) sp := by
  have h0 : ∃ sp, Repr (init entries info) sp := ⟨_, init_repr entries info hi hie⟩
  generalize init entries info = g at hok h0
  induction ops generalizing g with
  | nil => exact h0
  | cons op ops ih =>
    obtain ⟨hen, hrest⟩ := hok
    exact ih _ hrest (step_keeps_tiling hen)

/-- **the block area of a page lies inside the page's own slices** (over `_mi_segment_page_start_from_slice` as regenerated from
    src/segment.c; `mi_page_init` takes `reserved = page_size / block_size` from it): for the page that starts at slice `idx` and
    spans `cnt` slices, block area start + reported page size is exactly the end of those slices, the start is not before their
    beginning, hence every one of the `page_size / bs` blocks lies inside `[seg + idx·64 KiB, seg + (idx + cnt)·64 KiB)` and no block
    reaches into the neighbouring page -/
theorem generated_page_area_inside_its_slices (cnt seg idx bs psz : Nat) (hseg : seg + 33554432 < 2^64) (hidx : idx < 512)
    (hp : psz ≠ 0) (hcnt : 1 ≤ cnt) (hfit : idx + cnt ≤ 512) (hbs : 0 < bs) (i : Nat)
    (hi : i < (Gen._mi_segment_page_start_from_slice cnt seg (seg + 288 + idx * 96) bs psz).2 / bs) :
    seg + idx * 65536 ≤ (Gen._mi_segment_page_start_from_slice cnt seg (seg + 288 + idx * 96) bs psz).1 + i * bs ∧
    (Gen._mi_segment_page_start_from_slice cnt seg (seg + 288 + idx * 96) bs psz).1 + (i + 1) * bs ≤ seg + (idx + cnt) * 65536 := by
  have _ := hbs  -- (not needed)
  obtain ⟨hend, hstart⟩ := PageStartL.page_area_end cnt seg idx bs psz hseg hidx hp hcnt hfit
  generalize (Gen._mi_segment_page_start_from_slice cnt seg (seg + 288 + idx * 96) bs psz).1 = st at hend hstart ⊢
  generalize (Gen._mi_segment_page_start_from_slice cnt seg (seg + 288 + idx * 96) bs psz).2 = ps at hend hi ⊢
  have hblocks : (i + 1) * bs ≤ ps / bs * bs := Nat.mul_le_mul_right bs hi
  have hfloor : ps / bs * bs ≤ ps := Nat.div_mul_le_self ps bs
  constructor <;> omega

/-- **the real free-list extension, regenerated from src/page.c** (`mi_page_free_list_extend`, a `while` loop translated by
    extract/translate.py to `whileN`; stores are the effect log): for a page whose block area starts at `ps page`, with `cap` blocks
    handed to the lists so far and `ext ≥ 1` fresh ones, the function makes exactly these stores — link fresh block `cap + i` to
    `cap + i + 1` for every `i < ext`, re-link the last fresh block to the old free list, set `page->free` to the first fresh block -/
theorem generated_free_list_extend_exact_stores (ps : Nat → Nat) (cap free page bs ext stats : Nat) (hbs : 0 < bs) (hext : 0 < ext)
    (hfit : ps page + (cap + ext + 1) * bs < 2^64) :
    GenL.mi_page_free_list_extend ps cap free page bs ext stats =
      ExtendL.links page (ps page + cap * bs) bs 0 ext ++
        [("mi_block_set_next", [page, ps page + (cap + ext - 1) * bs, free]), ("set:free", [page, ps page + cap * bs])] :=
  ExtendL.extend_exact ps cap free page bs ext stats hbs hext hfit

/-- … which is the page model's `extend`: afterwards `page->free` is block `cap`, the `next` of fresh block `cap + i` is block
    `cap + i + 1`, the `next` of the last fresh block is the old list: the free list is `[cap, …, cap + ext - 1] ++ old free`
    (`PageM.extend`) -/
theorem generated_free_list_extend_threads_fresh_blocks (ps : Nat → Nat) (cap free page bs ext stats : Nat) (hbs : 0 < bs) (hext : 0 < ext)
    (hfit : ps page + (cap + ext + 1) * bs < 2^64) :
    ExtendL.freeAfter (GenL.mi_page_free_list_extend ps cap free page bs ext stats) page = some (ps page + cap * bs) ∧
    ∀ i, i < ext → ExtendL.nextAfter (GenL.mi_page_free_list_extend ps cap free page bs ext stats) page (ps page + (cap + i) * bs)
      = some (if i + 1 < ext then ps page + (cap + i + 1) * bs else free) := by
  rw [ExtendL.extend_exact ps cap free page bs ext stats hbs hext hfit, (by omega : cap + ext - 1 = cap + (ext - 1)), ExtendL.addr_split]
  refine ⟨(ExtendL.chain page _ bs ext free hbs).1, fun i hi => ?_⟩
  rw [ExtendL.addr_split, Nat.add_assoc cap, ExtendL.addr_split]
  exact (ExtendL.chain page _ bs ext free hbs).2 i hi

/-- … and it writes nowhere else: every `next` pointer it stores is stored into a fresh block (index `cap ≤ k < cap + ext`), never
    into a block that is live or already on a list -/
theorem generated_free_list_extend_writes_only_fresh_blocks (ps : Nat → Nat) (cap free page bs ext stats : Nat) (hbs : 0 < bs)
    (hext : 0 < ext) (hfit : ps page + (cap + ext + 1) * bs < 2^64) :
    ∀ c ∈ GenL.mi_page_free_list_extend ps cap free page bs ext stats,
      c = ("set:free", [page, ps page + cap * bs]) ∨
      ∃ k nx, cap ≤ k ∧ k < cap + ext ∧ c = ("mi_block_set_next", [page, ps page + k * bs, nx]) := by
  intro c hc
  rw [generated_free_list_extend_exact_stores ps cap free page bs ext stats hbs hext hfit] at hc
  rcases List.mem_append.mp hc with h | h
  · obtain ⟨i, _, hi, e⟩ := ExtendL.mem_links _ _ _ _ _ _ h
    right
    refine ⟨cap + i, ps page + cap * bs + (i + 1) * bs, by omega, by omega, ?_⟩
    rw [e, ExtendL.addr_split (ps page) cap i bs]
  · simp only [List.mem_cons, List.mem_nil_iff, or_false] at h
    rcases h with h | h
    · right; exact ⟨cap + ext - 1, free, by omega, by omega, h⟩
    · left; exact h

-- non-vacuity of `generated_page_area_inside_its_slices`: the page at slice 1 of a segment at 2^25, 8-byte blocks: the block area
-- starts 32 bytes into the slice (3 blocks skipped, rounded to 16) and the reported size is the rest of the slice
example : Gen._mi_segment_page_start_from_slice 1 33554432 (33554432 + 288 + 1 * 96) 8 1 = (33554432 + 65536 + 32, 65536 - 32) := by decide

-- non-vacuity of the three statements above: a page area at 2^16, 2 blocks of 16 bytes handed out, 3 fresh ones, old free list 77
example : GenL.mi_page_free_list_extend (fun _ => 65536) 2 77 1 16 3 0 =
    [("mi_block_set_next", [1, 65568, 65584]), ("mi_block_set_next", [1, 65584, 65600]), ("mi_block_set_next", [1, 65600, 65616]),
     ("mi_block_set_next", [1, 65600, 77]), ("set:free", [1, 65568])] := by decide

-- non-vacuity: a concrete reachable page state
example : Inv ([Op.extend 4, Op.pop, Op.pop, Op.freeLocal 0, Op.lfCollect].foldl step (init 8)) := page_invariant_reachable 8 _
example : ([Op.extend 4, Op.pop, Op.pop, Op.freeLocal 0].foldl step (init 8)).live = [1] := by decide

/-- **the size of a segment, as regenerated from `mi_segment_calculate_slices`** (release configuration, every page size dividing
    64 KiB, every request below 2^62): the segment header (`sizeof(mi_segment_t)`, 49536 bytes here) lies inside the info slices —
    exactly one 64 KiB slice, which no page ever covers (`generated_page_area_inside_its_slices` starts pages at their own slices) —, a normal
    segment has 512 slices, and a segment made for a huge request has room for the whole request *behind* the info slices with less
    than one slice wasted: the huge block and the header never share a byte -/
theorem generated_segment_size_covers_header_and_request (ps required : Nat) (hps : 0 < ps) (hd : ps ∣ 65536) (hr : required < 2^62) :
    (Gen.mi_segment_calculate_slices ps required 1).2 = 1
    ∧ 49536 ≤ (Gen.mi_segment_calculate_slices ps required 1).2 * 65536
    ∧ (required = 0 → (Gen.mi_segment_calculate_slices ps required 1).1 = 512)
    ∧ (0 < required →
        required + (Gen.mi_segment_calculate_slices ps required 1).2 * 65536 ≤ (Gen.mi_segment_calculate_slices ps required 1).1 * 65536
        ∧ (Gen.mi_segment_calculate_slices ps required 1).1 * 65536 < required + (Gen.mi_segment_calculate_slices ps required 1).2 * 65536 + 65536) := by
  rw [PageStartL.calc_eq ps required hps hd hr]
  refine ⟨rfl, (by show 49536 ≤ 1 * 65536; decide), fun h0 => by simp [h0], fun hpos => ?_⟩
  have h0 : required ≠ 0 := by omega
  simp only [if_neg h0]
  omega

example : Gen.mi_segment_calculate_slices 4096 (40 * 1048576) 1 = (641, 1) := by decide

end C01
