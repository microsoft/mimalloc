import MiVerif.Lemmas.PageStart
import MiVerif.Gen.Entry
import MiVerif.Props.C16
import MiVerif.Lemmas.OsAlign
/-! C03 — size and alignment contract, including interior (aligned) pointers.
   Subjects: `GenE.mi_heap_malloc_zero_aligned_at_overalloc` (the over-allocation path of every aligned entry
   point, regenerated from src/alloc-aligned.c with the allocator as oracle and flag updates as an effect log) and
   `Gen._mi_page_ptr_unalign` (interior pointer -> block start, proved in C16), `Gen._mi_segment_page_start_from_slice` (where the
   blocks of a page start) and `GenO._mi_os_alloc_aligned_at_offset` (blocks with their own OS allocation).  The remaining parts of the contract (usable size,
   minimal alignment, natural-alignment fast path, huge alignments, behaviour of free/realloc/expand on interior pointers) are
   checked on the real allocator by the shadow oracle harness/seq.c. -/

namespace C03
open GenE

variable (fsp : Nat → Nat → Nat) (pmz gen : Nat → Nat → Nat → Nat → Nat) (ptr_page : Nat → Nat) (usable : Nat → Nat → Nat) (nog : Nat → Nat → Nat → Nat)

/-- **over-allocation path** (power-of-two alignment `2^k ≤ 16 MiB`, any offset): the returned pointer `r` satisfies
    `(r + offset) % alignment = 0`, lies at or after the underlying block `p` and less than one alignment unit into it (so the
    `size` bytes after `r` fit into the `max(size,16) + alignment - 1` bytes that were allocated), and whenever `r` is an interior pointer
    the page is flagged has-aligned — which is what makes free / usable_size / realloc map `r` back to its block. -/
theorem overalloc_aligned (heap size k offset zero_ p : Nat) (hk : k ≤ 24)
    (hpe : nog heap ((((if size < 16 then 16 else size) + 2^k) % 18446744073709551616 + 18446744073709551616 - 1) % 18446744073709551616) zero_ = p)
    (hbound : p + offset + 2^k < 2^63) (hp : p ≠ 0) :
    let res := mi_heap_malloc_zero_aligned_at_overalloc fsp pmz gen ptr_page usable nog heap size (2^k) offset zero_
    (res.1 + offset) % 2^k = 0 ∧ p ≤ res.1 ∧ res.1 < p + 2^k ∧
    (res.1 ≠ p → ("mi_page_set_has_aligned", [ptr_page p, 1]) ∈ res.2) := by
  have hpow : ¬ ((2:Nat)^k > 16777216) := Nat.not_lt.2 (Nat.pow_le_pow_right (by decide) hk)
  have hpos : 0 < (2:Nat)^k := Nat.two_pow_pos k
  -- the adjustment: less than the alignment, and it makes `p + offset` a multiple of it
  obtain ⟨adj, hadj, hlt, haligned⟩ := Word.adjust_up (p + offset) (M := 18446744073709551616) hpos (by omega)
  rw [Nat.add_right_comm] at haligned
  have hmask : (2^k + 18446744073709551616 - 1) % 18446744073709551616 = 2^k - 1 := Word.wrap_sub hpos (by omega)
  have hpo : (p + offset) % 18446744073709551616 = p + offset := Nat.mod_eq_of_lt (by omega)
  have hal : (p + adj) % 18446744073709551616 = p + adj := Nat.mod_eq_of_lt (by omega)
  unfold mi_heap_malloc_zero_aligned_at_overalloc
  simp only [if_neg hpow, hpe, if_neg hp, hmask, hpo, Nat.and_two_pow_sub_one_eq_mod, hadj, hal]
  refine ⟨haligned, Nat.le_add_right _ _, Nat.add_lt_add_left hlt p, fun hne => ?_⟩
  rw [if_pos hne]
  simp

/-- interior pointer → block start (re-stated from C16, where it is proved over the regenerated `_mi_page_ptr_unalign`): for every
    block size (power of two or not), block index and interior offset -/
theorem interior_pointer_to_block (start bsize shift page i o : Nat)
    (hb : 0 < bsize) (ho : o < bsize) (hfit : start + (i + 1) * bsize < 2^63)
    (hshift : (shift ≠ 0 → bsize = 2^shift ∧ shift < 64)) :
    Gen._mi_page_ptr_unalign start shift bsize page (start + i * bsize + o) = start + i * bsize :=
  C16.unalign_correct start bsize shift page i o hb ho hfit hshift

/-- **blocks of power-of-two size classes are naturally aligned**: in a page with a power-of-two block size (8 bytes … 64 KiB) every block
    starts at a multiple of the block size — over the regenerated `_mi_segment_page_start_from_slice`, for every 32 MiB-aligned segment,
    every slice index and every block index.  This is what `mi_malloc_is_naturally_aligned` and the fast path of the aligned entry points
    (a block of the size class is used as it is) rely on. -/
theorem page_blocks_naturally_aligned (cnt seg idx bs psz : Nat) (hseg0 : seg % 33554432 = 0) (hseg : seg + 33554432 < 2^64) (hidx : idx < 512)
    (hbs : bs ∈ [8, 16, 32, 64, 128, 256, 512, 1024, 2048, 4096, 8192, 16384, 32768, 65536]) (i : Nat) :
    ((Gen._mi_segment_page_start_from_slice cnt seg (seg + 288 + idx * 96) bs psz).1 + i * bs) % bs = 0 := by
  open PageStartL in
  rw [page_start_eq cnt seg idx bs psz hseg hidx, Nat.add_mul_mod_self_right]
  have hp : (seg + idx * 65536) % 65536 = 0 := by omega
  obtain ⟨hd, h816⟩ : bs ∣ 65536 ∧ (bs = 8 ∨ bs % 16 = 0) :=
    (by decide : ∀ b ∈ [8, 16, 32, 64, 128, 256, 512, 1024, 2048, 4096, 8192, 16384, 32768, 65536], b ∣ 65536 ∧ (b = 8 ∨ b % 16 = 0)) bs hbs
  have hpm : (seg + idx * 65536) % bs = 0 := Word.mod_of_dvd_of_mod hd hp
  rcases h816 with rfl | h16
  · -- the one size class that is not a multiple of 16 divides 16, and the offset of the block area is a multiple of 16
    have h16 := (startOffset_bounds (seg + idx * 65536) ((cnt * 65536) % 18446744073709551616) 8).1
    omega
  · exact start_aligned h16 (Nat.pos_of_dvd_of_pos hd (by decide)) (Nat.le_of_dvd (by decide) hd) (by omega) (Or.inl hpm)

/-- **minimal alignment**: the block area of every page starts at a multiple of 16 (so blocks of a size class that is a multiple of 16
    are 16-byte aligned, as the C standard requires of malloc) -/
theorem page_start_is_16_aligned (cnt seg idx bs psz : Nat) (hseg0 : seg % 33554432 = 0) (hseg : seg + 33554432 < 2^64) (hidx : idx < 512) :
    (Gen._mi_segment_page_start_from_slice cnt seg (seg + 288 + idx * 96) bs psz).1 % 16 = 0 := by
  open PageStartL in
  rw [page_start_eq cnt seg idx bs psz hseg hidx]
  have h1 := (startOffset_bounds (seg + idx * 65536) ((cnt * 65536) % 18446744073709551616) bs).1
  omega

/-- **general form**: for every block size that is a multiple of 16 and at most 64 KiB (all size classes from 16 bytes up to the largest
    small-page class), in a page with room for the start adjustment, every block is aligned to every `a` that divides the block size —
    the exact claim behind `mi_malloc_is_naturally_aligned` (`bsize ≤ 64 KiB ∧ bsize & (alignment − 1) = 0`) -/
theorem page_blocks_aligned_to_divisors_of_size_class (cnt seg idx bs psz a : Nat) (hseg0 : seg % 33554432 = 0) (hseg : seg + 33554432 < 2^64)
    (hidx : idx < 512) (h16 : bs % 16 = 0) (hb0 : 0 < bs) (hb1 : bs ≤ 65536) (hroom : 2 * bs ≤ (cnt * 65536) % 18446744073709551616)
    (ha : a ∣ bs) (i : Nat) :
    ((Gen._mi_segment_page_start_from_slice cnt seg (seg + 288 + idx * 96) bs psz).1 + i * bs) % a = 0 := by
  apply Word.mod_of_dvd_of_mod ha
  rw [Nat.add_mul_mod_self_right, PageStartL.page_start_eq cnt seg idx bs psz hseg hidx]
  -- the block area starts at a multiple of the block size: the page has room for the adjustment
  exact PageStartL.start_aligned h16 hb0 hb1 (by omega) (Or.inr hroom)

/-- **alignment at an offset for blocks that get their own OS allocation** (`_mi_os_alloc_aligned_at_offset` as regenerated from src/os.c;
    the aligned allocation underneath is an arbitrary function that returned an aligned, non-NULL `start`): the returned pointer `p`
    satisfies `(p + offset) mod alignment = 0`, lies at or after `start`, and `size` bytes from `p` fit into what was allocated — the
    OS-level half of `mi_malloc_aligned_at` for huge alignments, for every size, every alignment and every offset up to 32 MiB -/
theorem generated_os_alloc_at_offset_is_aligned (none : Nat) (allocA : Nat → Nat → Nat → Nat → Nat → Nat)
    (ps size alignment offset commit al memid start : Nat)
    (ho : 0 < offset) (ho2 : offset ≤ 33554432) (ha0 : 0 < alignment) (ha : alignment < 2^63) (hsz : size < 2^63)
    (hse : allocA ((size + ((GenO._mi_align_up offset alignment + 18446744073709551616 - offset) % 18446744073709551616)) % 18446744073709551616)
             alignment commit al memid = start)
    (hs0 : start ≠ 0) (hsa : start % alignment = 0) (hsfit : start + size + alignment + 33554432 < 2^64) :
    ((GenO._mi_os_alloc_aligned_at_offset none allocA ps size alignment offset commit al memid).1 + offset) % alignment = 0 ∧
    start ≤ (GenO._mi_os_alloc_aligned_at_offset none allocA ps size alignment offset commit al memid).1 ∧
    (GenO._mi_os_alloc_aligned_at_offset none allocA ps size alignment offset commit al memid).1 + size
      ≤ start + (size + ((offset + alignment - 1) / alignment * alignment - offset)) := by
  have _ := ha; have _ := hsz  -- (not needed: `hsfit` bounds both)
  have hup : GenO._mi_align_up offset alignment = (offset + alignment - 1) / alignment * alignment :=
    OsAlignL.up_eq offset alignment ha0 (by omega)
  obtain ⟨hU1, hU2⟩ := Word.roundUp_bounds offset ha0
  have hU3 : (offset + alignment - 1) / alignment * alignment % alignment = 0 := Nat.mul_mod_left _ _
  generalize (offset + alignment - 1) / alignment * alignment = U at hup hU1 hU2 hU3 ⊢
  have eex : (U + 18446744073709551616 - offset) % 18446744073709551616 = U - offset := Word.wrap_sub hU1 (by omega)
  have eov : (size + (U - offset)) % 18446744073709551616 = size + (U - offset) := Nat.mod_eq_of_lt (by omega)
  have ep : (start + (U - offset)) % 18446744073709551616 = start + (U - offset) := Nat.mod_eq_of_lt (by omega)
  have hr : (GenO._mi_os_alloc_aligned_at_offset none allocA ps size alignment offset commit al memid).1 = start + (U - offset) := by
    rw [hup, eex, eov] at hse
    unfold GenO._mi_os_alloc_aligned_at_offset
    simp only [if_neg (Nat.not_lt.2 ho2), if_neg (Nat.ne_of_gt ho), hup, eex, eov, hse, if_neg hs0, ep]
  rw [hr]
  refine ⟨?_, by omega, by omega⟩
  rw [show start + (U - offset) + offset = start + U by omega, Nat.add_mod, hsa, hU3]
  rfl

-- non-vacuity: 1 MiB at offset 4096 aligned to 64 MiB, the allocation underneath at 2^40
example : (GenO._mi_os_alloc_aligned_at_offset 0 (fun _ _ _ _ _ => 1099511627776) 4096 1048576 67108864 4096 1 0 0).1 = 1099511627776 + 67108864 - 4096 := by
  decide

end C03
