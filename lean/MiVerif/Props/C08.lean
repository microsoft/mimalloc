import MiVerif.Lemmas.DelayedReach
/-! C08 — remotely freed memory is never lost.
   Same model as C02 (MiVerif/Model/Delayed.lean).  The comment at types.h l.313-319 ("`MI_NO_DELAYED_FREE` may only be
   set while a block of that page is, or is about to be, on the owner's delayed list") is the `noDelay` conjunct. -/

namespace C08
open Delayed

/-- the documented flag invariant, in every reachable state: NO_DELAYED_FREE implies a block of the page is on the heap's
    delayed list, on the list the owner took over, or is the block the owner is processing and has not re-armed the flag for -/
theorem no_delayed_inv {s0 s : St} (h0 : Inv s0) (hr : Reach s0 s) (hf : s.flag = .no) :
    s.dl ++ s.pend ++ (s.own.filter (fun p => !p.2)).map (·.1) ≠ [] :=
  (inv_reach h0 hr).noDelay hf

/-- a remote free that has pushed its block on the heap's delayed list keeps it pending until it has reset the flag -/
theorem pushed_block_pending {s0 s : St} (h0 : Inv s0) (hr : Reach s0 s) :
    ∀ x ∈ s.fl, x.isFreeing = true → x.holds = false → x.b ∈ s.dl ++ s.pend ++ s.own.map (·.1) :=
  (inv_reach h0 hr).pushed

/-- never lost: every block of the page is, in every reachable state, still somewhere the allocator will find it -/
theorem never_lost {s0 s : St} (h0 : Inv s0) (hr : Reach s0 s) : ∀ b, b ∈ allBlocks s ↔ b ∈ allBlocks s0 :=
  have _ := h0  -- (not needed: every step permutes the blocks)
  fun _ => (reach_perm hr).mem_iff

/-- quiescent collect: with no remote free in flight the owner alone can drain everything — there is an execution of owner
    steps (take over the delayed list, process each block, collect the page's thread-free list) after which every block
    that is not live is on the owner's free or local-free list, i.e. reusable by the owning thread -/
theorem quiescent_collect_recovers {s0 s : St} (h0 : Inv s0) (hr : Reach s0 s) (hq : s.fl = []) :
    ∃ s', Reach s s' ∧ s'.tf = [] ∧ s'.dl = [] ∧ s'.pend = [] ∧ s'.own = [] ∧ s'.fl = [] ∧ s'.live = s.live ∧
      (∀ b, b ∈ allBlocks s → b ∈ s'.free ++ s'.lf ++ s'.live) := by
  have hinv := inv_reach h0 hr
  have hfz : s.flag ≠ .freeing := fun hc => by simpa [hq] using hinv.freeing1.1 hc
  obtain ⟨f₁, l₁, hf₁, r₁⟩ := drain_own s hfz hinv.own1
  obtain ⟨f₂, l₂, hf₂, r₂⟩ := drain_pend { s with own := [], flag := f₁, lf := l₁ } rfl hf₁
  obtain ⟨f₃, l₃, _, r₃⟩ := drain_pend { s with pend := s.dl, dl := [], own := [], flag := f₂, lf := l₂ } rfl hf₂
  have hrw := ((r₁.trans r₂).trans (Reach.head (Step.takeDl _ rfl rfl) r₃)).step (Step.tfCollect _)
  refine ⟨_, hrw, rfl, rfl, rfl, rfl, hq, rfl, fun b hb => ?_⟩
  have hb' := (reach_perm hrw).mem_iff.2 hb
  simpa only [allBlocks, hq, held_nil, List.map_nil, List.append_nil, List.nil_append] using hb'

/-- hence: once all blocks have been freed (by whichever threads) and the owner collects, the page holds no live block
    and every block of it is free — the page can be released -/
theorem all_freed_then_page_empty {s0 s : St} (h0 : Inv s0) (hr : Reach s0 s) (hq : s.fl = []) (hl : s.live = []) :
    ∃ s', Reach s s' ∧ s'.live = [] ∧ (∀ b, b ∈ allBlocks s0 → b ∈ s'.free ++ s'.lf) := by
  obtain ⟨s', hr', _, _, _, _, _, hl', hall⟩ := quiescent_collect_recovers h0 hr hq
  refine ⟨s', hr', hl'.trans hl, fun b hb => ?_⟩
  have := hall b ((reach_perm hr).mem_iff.2 hb)
  rwa [hl'.trans hl, List.append_nil] at this

/-- a remote free never blocks for ever on its own: run alone from any reachable state, an in-flight free completes -/
theorem remote_free_completes {s0 s : St} (h0 : Inv s0) (hr : Reach s0 s) {pre post : List Flight} {x : Flight}
    (hx : s.fl = pre ++ x :: post) : ∃ s', Reach s s' ∧ s'.fl = pre ++ post := by
  have _ := h0; have _ := hr  -- (not needed: the flight finishes from any state)
  obtain ⟨b, pc⟩ := x
  cases pc with
  | r1 => exact fin_r1 hx
  | r2 hh ff => exact fin_r2 hx
  | r4load => exact fin_r4load hx
  | r4 d => exact fin_r4 hx
  | r5load => exact fin_r5load hx
  | r5 hh ff => exact fin_r5 hx

end C08
