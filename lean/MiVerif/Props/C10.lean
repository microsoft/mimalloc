import MiVerif.Model.Heap
/-! C10 — first-class heaps: delete migrates, destroy frees exactly its own blocks.
   Over the ownership model MiVerif/Model/Heap.lean (compared with the real heap functions and ownership
   queries after every operation, harness/c10.c).  The concurrent clause (delete / collect while other threads free into the heap)
   rests on the delayed-free protocol proved in C02/C08 (the `delayed-freeing` state is waited out by mi_heap_absorb) and is searched
   by the scheduler stress oracle with heap deletion enabled. -/

namespace C10
open HeapM

/-- `delete h` and `destroy h` act on an existing first-class heap only -/
theorem guard_true {s : St} {h : Nat} (hh : h ≠ 0) (hex : s.heaps.contains h = true) : (h != 0 && s.heaps.contains h) = true := by
  rw [hex, Bool.and_true, bne_iff_ne]
  exact hh

/-- `mi_heap_delete` keeps every live block alive: the set of live blocks is unchanged, blocks of the deleted heap now belong to the
    backing heap, all other blocks keep their heap -/
theorem delete_migrates (s : St) (h : Nat) (hh : h ≠ 0) (hex : s.heaps.contains h = true) :
    (step s (.delete h)).owner.map (·.1) = s.owner.map (·.1) ∧
    (∀ b g, (b, g) ∈ s.owner → g = h → (b, 0) ∈ (step s (.delete h)).owner) ∧
    (∀ b g, (b, g) ∈ s.owner → g ≠ h → (b, g) ∈ (step s (.delete h)).owner) ∧
    (∀ p ∈ (step s (.delete h)).owner, p.2 ≠ h) := by
  simp only [step, guard_true hh hex, if_true, deleteHeap]
  refine ⟨?_, fun b g hm hg => ?_, fun b g hm hg => ?_, fun p hp => ?_⟩
  · rw [List.map_map]
    exact List.map_congr_left fun p _ => (apply_ite Prod.fst _ _ _).trans (ite_self _)
  · exact List.mem_map.mpr ⟨(b, g), hm, if_pos (beq_iff_eq.mpr hg)⟩
  · exact List.mem_map.mpr ⟨(b, g), hm, if_neg (mt beq_iff_eq.mp hg)⟩
  · obtain ⟨q, _, rfl⟩ := List.mem_map.mp hp
    exact iteInduction (motive := fun r : Nat × Nat => r.2 ≠ h) (fun _ => hh.symm) fun hq => mt beq_iff_eq.mpr hq

/-- `mi_heap_destroy` releases every block of that heap and nothing else -/
theorem destroy_exact (s : St) (h : Nat) (hh : h ≠ 0) (hex : s.heaps.contains h = true) (hd : s.nod.contains h = false) :
    ∀ b g, (b, g) ∈ (step s (.destroy h)).owner ↔ ((b, g) ∈ s.owner ∧ g ≠ h) := by
  intro b g
  simp only [step, guard_true hh hex, if_true, hd, Bool.false_eq_true, if_false, List.mem_filter, bne_iff_ne, ne_eq]

/-- `mi_heap_destroy` of a heap that was not created with `allow_destroy` (it may hold pages reclaimed from other threads) frees nothing:
    it behaves exactly as `mi_heap_delete` -/
theorem destroy_of_nondestroyable_is_delete (s : St) (h : Nat) (hd : s.nod.contains h = true) :
    step s (.destroy h) = step s (.delete h) := by
  simp only [step, hd, if_true]

/-- when the default heap is deleted or destroyed, the default falls back to the backing heap; otherwise the default is unchanged -/
theorem default_falls_back (s : St) (h : Nat) (hh : h ≠ 0) (hex : s.heaps.contains h = true) :
    (step s (.delete h)).dflt = (if s.dflt = h then 0 else s.dflt) ∧ (step s (.destroy h)).dflt = (if s.dflt = h then 0 else s.dflt) := by
  -- `destroy` sets the default in the same way whether or not the heap may be destroyed (`ite_self`)
  simp only [step, guard_true hh hex, if_true, apply_ite St.dflt, deleteHeap, ite_self, beq_iff_eq, and_self]

/-- a block is attributed to exactly the heap it was allocated in: allocation records the heap, no other block changes owner -/
theorem alloc_owner (s : St) (h b : Nat) (hex : exists_ s h = true) (hfresh : s.owner.any (·.1 == b) = false) :
    (step s (.alloc h b)).owner = (b, h) :: s.owner := by
  simp [step, hex, hfresh]

/-- the default heap serves the entry points without a heap argument -/
theorem alloc_default_owner (s : St) (b : Nat) (hfresh : s.owner.any (·.1 == b) = false) :
    (step s (.allocDefault b)).owner = (b, s.dflt) :: s.owner := by
  simp [step, hfresh]

/-- invariant over every history: each live block is owned by an existing heap (the backing heap or a first-class heap that has not
    been deleted or destroyed), and the default heap exists -/
def Ok (s : St) : Prop := (∀ p ∈ s.owner, exists_ s p.2 = true) ∧ exists_ s s.dflt = true

theorem init_ok : Ok init := ⟨fun _ hp => absurd hp List.not_mem_nil, rfl⟩

theorem exists_iff (s : St) (h : Nat) : exists_ s h = true ↔ h = 0 ∨ h ∈ s.heaps := by simp [exists_]

theorem exists_of {s s' : St} {k : Nat} (h : exists_ s k = true) (hk : k ∈ s.heaps → k ∈ s'.heaps) : exists_ s' k = true :=
  (exists_iff s' k).2 (((exists_iff s k).1 h).imp_right hk)

theorem exists_keep {s s' : St} {g k : Nat} (hs : s'.heaps = s.heaps.filter (· != g)) (h : exists_ s k = true) (hkg : k ≠ g) :
    exists_ s' k = true :=
  exists_of h fun hm => hs ▸ List.mem_filter.2 ⟨hm, bne_iff_ne.mpr hkg⟩

/-- what referred to the removed heap `g` now refers to the backing heap -/
theorem exists_remove {s s' : St} {g k : Nat} (hs : s'.heaps = s.heaps.filter (· != g)) (h : exists_ s k = true) :
    exists_ s' (if k == g then 0 else k) = true :=
  iteInduction (motive := (exists_ s' · = true)) (fun _ => rfl) fun hkg => exists_keep hs h (mt beq_iff_eq.mpr hkg)

theorem deleteHeap_ok (s : St) (g : Nat) (h : Ok s) : Ok (deleteHeap s g) := by
  refine ⟨fun p hp => ?_, exists_remove rfl h.2⟩
  obtain ⟨q, hq, rfl⟩ := List.mem_map.mp hp
  rw [apply_ite Prod.snd]
  exact exists_remove rfl (h.1 q hq)

theorem step_ok (s : St) (op : Op) (h : Ok s) : Ok (step s op) := by
  cases op with
  | new g | newNoDestroy g =>
    exact iteInduction (fun _ => h) fun _ =>
      ⟨fun p hp => exists_of (h.1 p hp) (List.mem_cons_of_mem g), exists_of h.2 (List.mem_cons_of_mem g)⟩
  | alloc g b => exact iteInduction (fun hc => ⟨List.forall_mem_cons.2 ⟨(Bool.and_eq_true_iff.mp hc).1, h.1⟩, h.2⟩) fun _ => h
  | allocDefault b => exact iteInduction (fun _ => ⟨List.forall_mem_cons.2 ⟨h.2, h.1⟩, h.2⟩) fun _ => h
  | free b => exact ⟨fun p hp => h.1 p (List.mem_filter.mp hp).1, h.2⟩
  | delete g => exact iteInduction (fun _ => deleteHeap_ok s g h) fun _ => h
  | destroy g =>
    refine iteInduction (fun _ => iteInduction (fun _ => deleteHeap_ok s g h) fun _ => ?_) fun _ => h
    -- the blocks of `g` are gone, every other block keeps its heap
    refine ⟨fun p hp => ?_, exists_remove rfl h.2⟩
    obtain ⟨hq, hne⟩ := List.mem_filter.mp hp
    exact exists_keep rfl (h.1 p hq) (bne_iff_ne.mp hne)
  | setDefault g => exact iteInduction (fun hc => ⟨h.1, hc⟩) fun _ => h

theorem reachable_ok (ops : List Op) : Ok (ops.foldl step init) :=
  List.foldlRecOn ops step init_ok fun s h op _ => step_ok s op h

-- non-vacuity
example : (([.new 1, .alloc 1 7, .allocDefault 8, .setDefault 1, .allocDefault 9, .delete 1] : List Op).foldl step init)
    = { heaps := [], owner := [(9, 0), (8, 0), (7, 0)], dflt := 0, nod := [] } := by decide
example : (([.newNoDestroy 2, .alloc 2 5, .destroy 2] : List Op).foldl step init) = { heaps := [], owner := [(5, 0)], dflt := 0, nod := [] } := by decide

end C10
