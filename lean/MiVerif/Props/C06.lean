import MiVerif.Gen.Entry
import MiVerif.Gen.Tables
import MiVerif.Lemmas.EntryPoints
/-! C06 — malformed or oversized requests fail cleanly.
   Statements about the public entry-point layer as regenerated from alloc.c / alloc-aligned.c /
   alloc-posix.c / page.c (MiVerif/Gen/Entry.lean): the allocator core underneath is an arbitrary
   oracle (every theorem is universally quantified over it), calls with side effects are an effect log.
   "returns NULL and has no effect" is literally "result 0, empty log, for every oracle". -/

namespace C06
open GenE

variable (gsp : Nat → Nat → Nat) (pmz : Nat → Nat → Nat → Nat → Nat) (gen : Nat → Nat → Nat → Nat → Nat)
  (us : Nat → Nat → Nat) (rdf : Nat → Nat) (pmzd pm : Nat → Nat → Nat → Nat) (bs : Nat → Nat) (ps : Nat)
  (ng : Nat → Nat → Nat → Nat) (pp : Nat → Nat) (dh : Nat)

/-- calloc: an overflowing count*size returns NULL, whatever the allocator underneath would do -/
theorem calloc_overflow (heap count size : Nat) (hc : count < 2^64) (hs : size < 2^64) (h : 2^64 ≤ count * size) :
    mi_heap_calloc gsp pmz gen heap count size = 0 := by
  have _ := hc  -- (not needed)
  unfold mi_heap_calloc
  rw [C06L.count_size_overflow_of_ge hs h]
  rfl

/-- calloc: otherwise it is exactly a zeroing allocation of the product -/
theorem calloc_exact (heap count size : Nat) (hc : count < 2^64) (hs : size < 2^64) (h : count * size < 2^64) :
    mi_heap_calloc gsp pmz gen heap count size = mi_heap_zalloc gsp pmz gen heap (count * size) := by
  have _ := hc; have _ := hs  -- (not needed)
  unfold mi_heap_calloc
  rw [C06L.count_size_overflow_of_lt h]
  rfl

theorem mallocn_overflow (heap count size : Nat) (hc : count < 2^64) (hs : size < 2^64) (h : 2^64 ≤ count * size) :
    mi_heap_mallocn gsp pmz gen heap count size = 0 := by
  have _ := hc  -- (not needed)
  unfold mi_heap_mallocn
  rw [C06L.count_size_overflow_of_ge hs h]
  rfl

/-- reallocn: overflow returns NULL with an empty effect log (old block neither freed nor copied) -/
theorem reallocn_overflow (heap p count size : Nat) (hc : count < 2^64) (hs : size < 2^64) (h : 2^64 ≤ count * size) :
    mi_heap_reallocn us gsp pmz gen heap p count size = (0, []) := by
  have _ := hc  -- (not needed)
  unfold mi_heap_reallocn
  rw [C06L.count_size_overflow_of_ge hs h]
  rfl

theorem recalloc_overflow (heap p count size : Nat) (hc : count < 2^64) (hs : size < 2^64) (h : 2^64 ≤ count * size) :
    mi_heap_recalloc us gsp pmz gen heap p count size = (0, []) := by
  have _ := hc  -- (not needed)
  unfold mi_heap_recalloc
  rw [C06L.count_size_overflow_of_ge hs h]
  rfl

theorem calloc_aligned_overflow (heap count size alignment offset : Nat) (hc : count < 2^64) (hs : size < 2^64) (h : 2^64 ≤ count * size) :
    mi_heap_calloc_aligned_at gsp rdf pmzd pm bs ps ng pmz gen pp us heap count size alignment offset = (0, []) := by
  have _ := hc  -- (not needed)
  unfold mi_heap_calloc_aligned_at
  rw [C06L.count_size_overflow_of_ge hs h]
  rfl

theorem recalloc_aligned_overflow (heap p count size alignment offset : Nat) (hc : count < 2^64) (hs : size < 2^64) (h : 2^64 ≤ count * size) :
    mi_heap_recalloc_aligned_at us gsp pmz gen rdf pmzd pm bs ps ng pp heap p count size alignment offset = (0, []) := by
  have _ := hc  -- (not needed)
  unfold mi_heap_recalloc_aligned_at
  rw [C06L.count_size_overflow_of_ge hs h]
  rfl

/-- reallocarray: overflow returns NULL, sets errno to ENOMEM (12) and does nothing else -/
theorem reallocarray_overflow (p count size : Nat) (hc : count < 2^64) (hs : size < 2^64) (h : 2^64 ≤ count * size) :
    mi_reallocarray dh us gsp pmz gen p count size = (0, [("store:__errno_location", [12])]) := by
  unfold mi_reallocarray mi_reallocn
  rw [reallocn_overflow gsp pmz gen us dh p count size hc hs h]
  rfl

/-- aligned allocation: alignment 0 or not a power of two returns NULL before touching the heap -/
theorem aligned_bad_alignment (heap size alignment offset zero : Nat) (ha : alignment < 2^64)
    (h : alignment = 0 ∨ alignment &&& (alignment - 1) ≠ 0) :
    mi_heap_malloc_zero_aligned_at gsp rdf pmzd pm bs ps ng pmz gen pp us heap size alignment offset zero = (0, []) := by
  unfold mi_heap_malloc_zero_aligned_at
  exact if_pos (C06L.bad_alignment ha h)

/-- aligned allocation: a size above MI_MAX_ALLOC_SIZE returns NULL before touching the heap -/
theorem aligned_oversize (heap size alignment offset zero : Nat) (hs : size < 2^64) (h : Gen.MI_MAX_ALLOC_SIZE < size) :
    mi_heap_malloc_zero_aligned_at gsp rdf pmzd pm bs ps ng pmz gen pp us heap size alignment offset zero = (0, []) := by
  have _ := hs  -- (not needed)
  have h' : size > 281474976579584 := h
  have h1 : ¬ ((size ≤ 1024) ∧ (alignment ≤ size)) := by omega
  -- the generic path refuses first (rewriting with the exact test keeps a changed test from
  -- sending `simp` into the whole function: the proof then fails at once instead of diverging)
  have hg : mi_heap_malloc_zero_aligned_at_generic bs ps ng gsp pmz gen pp us heap size alignment offset zero = (0, []) := by
    unfold mi_heap_malloc_zero_aligned_at_generic
    rw [if_pos h']
  unfold mi_heap_malloc_zero_aligned_at
  rw [hg]
  simp only [if_neg h1]
  exact ite_self _

/-- the generic allocation path refuses sizes above MI_MAX_ALLOC_SIZE (also after `size + padding` wrapped) -/
theorem find_page_oversize (lh : Nat → Nat → Nat → Nat) (ff : Nat → Nat → Nat) (heap size ha : Nat) (hs : size < 2^64)
    (h : Gen.MI_MAX_ALLOC_SIZE < size) : mi_find_page lh ff heap size ha = 0 := by
  have h' : size > 281474976579584 := h
  have h1 : (size > 65536) ∨ (ha > 0) := Or.inl (by omega)
  unfold mi_find_page
  simp only [Nat.sub_zero, Nat.add_mod_right, Nat.mod_eq_of_lt hs, if_pos h1, if_pos h']

/-- posix_memalign: invalid arguments give EINVAL (22), the out-parameter keeps its old value, no effect -/
theorem posix_memalign_einval (p alignment size p_in : Nat) (ha : alignment < 2^64)
    (h : p = 0 ∨ alignment % 8 ≠ 0 ∨ alignment = 0 ∨ alignment &&& (alignment - 1) ≠ 0) :
    mi_posix_memalign dh gsp rdf pmzd pm bs ps ng pmz gen pp us p alignment size p_in = (22, p_in, []) := by
  unfold mi_posix_memalign
  by_cases hp : p = 0
  · simp only [if_pos hp]
  · by_cases h8 : alignment % 8 ≠ 0
    · simp only [if_neg hp, if_pos h8]
    · simp only [if_neg hp, if_neg h8, if_pos (C06L.bad_alignment ha ((h.resolve_left hp).resolve_left h8))]

/-- posix_memalign: whenever it reports an error the out-parameter is unmodified; the codes are 0, EINVAL, ENOMEM -/
theorem posix_memalign_error_keeps_out (p alignment size p_in : Nat) :
    let r := mi_posix_memalign dh gsp rdf pmzd pm bs ps ng pmz gen pp us p alignment size p_in
    (r.1 = 0 ∨ r.1 = 12 ∨ r.1 = 22) ∧ (r.1 ≠ 0 → r.2.1 = p_in) := by
  unfold mi_posix_memalign
  by_cases hp : p = 0
  · simp [hp]
  · by_cases h8 : alignment % 8 ≠ 0
    · simp [hp, h8]
    · by_cases hb : (alignment = 0) ∨ (¬ ((_mi_is_power_of_two alignment) ≠ 0))
      · simp only [if_neg hp, if_neg h8, if_pos hb]; simp
      · simp only [if_neg hp, if_neg h8, if_neg hb]
        split <;> simp

/-- pvalloc: a size that overflows when rounded up to the page size returns NULL with no effect -/
theorem pvalloc_overflow (size : Nat) (hps : 0 < ps) (hps2 : ps < 2^64) (h : 2^64 - 1 - ps ≤ size) :
    mi_pvalloc ps dh gsp rdf pmzd pm bs ng pmz gen pp us size = (0, []) := by
  have _ := hps  -- (not needed)
  have hc : size ≥ (18446744073709551615 + 18446744073709551616 - ps) % 18446744073709551616 := by
    rw [Word.wrap_sub (y := ps) (by omega) (by decide)]; omega
  unfold mi_pvalloc
  simp only [if_pos hc]

/-- a failing realloc (NULL result) has an empty effect log: the old block is neither freed, copied from, nor zeroed -/
theorem realloc_fail_keeps_old (heap p newsize zero : Nat)
    (h : (_mi_heap_realloc_zero us gsp pmz gen heap p newsize zero).1 = 0) :
    (_mi_heap_realloc_zero us gsp pmz gen heap p newsize zero).2 = [] := by
  rw [C06L.realloc_zero_eq rfl] at h ⊢
  by_cases hin : newsize ≤ us p 0 ∧ us p 0 / 2 ≤ newsize ∧ 0 < newsize
  · rw [if_pos hin]
  · rw [if_neg hin] at h ⊢
    exact if_neg (fun hnew => hnew h)

/-- reallocf: on failure the old block is freed (exactly that) -/
theorem reallocf_frees_on_failure (heap p newsize : Nat) (hp : p ≠ 0)
    (h : (mi_heap_realloc us gsp pmz gen heap p newsize).1 = 0) :
    mi_heap_reallocf us gsp pmz gen heap p newsize = (0, [("mi_free", [p])]) := by
  have e : mi_heap_realloc us gsp pmz gen heap p newsize = _mi_heap_realloc_zero us gsp pmz gen heap p newsize 0 := by
    unfold mi_heap_realloc; simp
  have hfail : mi_heap_realloc us gsp pmz gen heap p newsize = (0, []) := by
    rw [e] at h ⊢
    exact Prod.ext h (realloc_fail_keeps_old gsp pmz gen us heap p newsize 0 h)
  unfold mi_heap_reallocf
  rw [hfail]
  simp [hp]

/-- non-vacuity: concrete arguments meeting the overflow hypotheses -/
example : (2^63 : Nat) < 2^64 ∧ (2 : Nat) < 2^64 ∧ 2^64 ≤ 2^63 * 2 := by decide
example : Gen.MI_MAX_ALLOC_SIZE < 2^63 ∧ (2^63 : Nat) < 2^64 := by decide
example : (3 : Nat) &&& (3 - 1) ≠ 0 := by decide

end C06
