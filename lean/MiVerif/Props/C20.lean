import MiVerif.Lemmas.Options
import MiVerif.Lemmas.Printf
import MiVerif.Gen.Formats
import MiVerif.Gen.Loops
import MiVerif.Lemmas.StrLoops
/-! C20 — options, environment parsing and diagnostic output are total and memory-safe.
   Models: MiVerif/Model/Options.lean (mi_option_init value parsing) and
   MiVerif/Model/Printf.lean (_mi_vsnprintf, _mi_strlcpy, _mi_strlcat); both are compared with the real static
   functions of the current tree on every run (harness/c20.c, under AddressSanitizer).  `Gen.internalFormats` is
   regenerated from the string literals of /repo/src. -/

namespace C20
open OptM PfM C20L

/-- the parser always terminates in one of two states: INITIALIZED with some value, or DEFAULTED with the default untouched -/
theorem parse_total (sz : Bool) (dflt : Int) (buf : List Char) :
    (∃ v, parseBuf sz dflt buf = (.initialized, v)) ∨ parseBuf sz dflt buf = (.defaulted, dflt) := by
  by_cases h : (buf = [] ∨ buf ∈ trueWords) ∨ buf ∈ falseWords
  · rcases h with h | h
    · exact .inl ⟨1, parseBuf_true sz dflt h⟩
    · exact .inl ⟨0, parseBuf_false sz dflt h⟩
  · rw [parseBuf_num sz dflt (fun e => h (.inl (.inl e))) (fun e => h (.inl (.inr e))) (fun e => h (.inr e))]
    exact iteInduction (motive := fun r => (∃ v, r = (Init.initialized, v)) ∨ r = (.defaulted, dflt)) (fun _ => .inl ⟨_, rfl⟩) fun _ => .inr rfl

/-- only at most 64 bytes of the environment value are parsed -/
theorem buffer_le_64 (raw : String) : (buffer raw).length ≤ 64 := by
  rw [buffer, List.length_map, List.length_take]
  exact Nat.min_le_left 64 _

/-- an accepted value is empty, a whole boolean word (value 1 / 0), or a well-formed number
    `ws* [+-]? digits+ [K|M|G|T]? [IB|B]?` (unit suffixes only for the size options) -/
theorem accepted_is_wellformed (sz : Bool) (dflt v : Int) (buf : List Char) (h : parseBuf sz dflt buf = (.initialized, v)) :
    buf = [] ∨ (buf ∈ trueWords ∧ v = 1) ∨ (buf ∈ falseWords ∧ v = 0) ∨ WellFormedNum sz buf :=
  C20L.accepted_is_wellformed sz dflt v buf h

/-- a malformed value leaves the default in place -/
theorem malformed_keeps_default (sz : Bool) (dflt : Int) (buf : List Char)
    (h : ¬ (buf = [] ∨ buf ∈ trueWords ∨ buf ∈ falseWords ∨ WellFormedNum sz buf)) :
    parseBuf sz dflt buf = (.defaulted, dflt) := by
  rcases parse_total sz dflt buf with ⟨v, hv⟩ | hd
  · -- an accepted value has one of the four shapes (its value `v` is of no interest here)
    exact absurd ((C20L.accepted_is_wellformed sz dflt v buf hv).imp_right (.imp And.left (.imp_left And.left))) h
  · exact hd

/-- the boolean words (any case: the buffer is upper-cased) and the empty value -/
theorem bool_words (sz : Bool) (dflt : Int) :
    parseBuf sz dflt [] = (.initialized, 1) ∧
    (∀ b ∈ trueWords, parseBuf sz dflt b = (.initialized, 1)) ∧ (∀ b ∈ falseWords, parseBuf sz dflt b = (.initialized, 0)) :=
  ⟨parseBuf_true sz dflt (.inl rfl), fun _ hb => parseBuf_true sz dflt (.inr hb), fun _ hb => parseBuf_false sz dflt hb⟩

/-- decimal integers parse to their value, saturating at LONG_MAX / LONG_MIN -/
theorem parse_decimal (dflt : Int) (sgn ds : List Char) (hs : sgn = [] ∨ sgn = ['-'] ∨ sgn = ['+']) (hne : ds ≠ [])
    (hd : ∀ c ∈ ds, c.isDigit = true) (ht : sgn ++ ds ∉ trueWords) (hf : sgn ++ ds ∉ falseWords) :
    parseBuf false dflt (sgn ++ ds) = (.initialized, clampLong (if sgn = ['-'] then -(digitsVal ds : Int) else (digitsVal ds : Int))) := by
  have hst := strtol_num sgn ds [] hs hne hd rfl
  rw [List.append_nil] at hst
  rw [parseBuf_num false dflt (by simp [hne]) ht hf, hst]
  rfl

/-- sizes with K/M/G/T (+ optional iB / B) parse to the documented number of KiB, saturating at MI_MAX_ALLOC_SIZE/KiB
    (also when the multiplication overflows 64 bits or the digits overflow `long`) -/
theorem parse_size (dflt : Int) (ds u b : List Char) (hne : ds ≠ []) (hd : ∀ c ∈ ds, c.isDigit = true)
    (hu : u ∈ unitSuffixes) (hb : b ∈ byteSuffixes) (ht : ds ++ (u ++ b) ∉ trueWords) (hf : ds ++ (u ++ b) ∉ falseWords) :
    parseBuf true dflt (ds ++ (u ++ b)) = (.initialized, docKiB (kibOf (digitsVal ds) u)) := by
  have hst := strtol_num [] ds (u ++ b) (Or.inl rfl) hne hd (suffix_table u hu b hb).1
  rw [List.nil_append, if_neg (by decide)] at hst
  rw [parseBuf_num true dflt (by simp [hne]) ht hf, hst]
  simp only [if_true, sizeKiB_suffix _ hu hb, docKiB_clamp _ hu]
  rfl

/-- `_mi_vsnprintf` never stores outside its buffer, always terminates the string inside it and returns a length
    below the buffer size — for every buffer size, every format (well-formed or not) and every argument list -/
theorem vsnprintf_in_bounds (bufsize : Nat) (hb : 0 < bufsize) (fmt : List Char) (args : List Arg) :
    (vsnprintf bufsize fmt args).len ≤ bufsize - 1 ∧ (vsnprintf bufsize fmt args).termAt < bufsize ∧
    (vsnprintf bufsize fmt args).oob = false := by
  unfold vsnprintf
  rw [if_neg (by omega)]
  have h := go_ext (fmt.length + 1) { out := [], cap := bufsize - 1 } fmt args
  obtain ⟨h1, h2⟩ := h.inv ⟨Nat.zero_le _, rfl⟩
  have h1 : _ ≤ bufsize - 1 := h.cap ▸ h1
  exact ⟨h1, by simp only; omega, h2⟩

/-- buffer size 0: nothing is written at all -/
theorem vsnprintf_zero (fmt : List Char) (args : List Arg) : (vsnprintf 0 fmt args).len = 0 ∧ (vsnprintf 0 fmt args).oob = false := ⟨rfl, rfl⟩

/-- the model's unbounded `width` agrees with the C `size_t` for every format the allocator itself uses:
    none of them has a width field of more than 18 digits (the table is regenerated from the sources) -/
theorem internal_formats_small_width : ∀ f ∈ Gen.internalFormatChars, widthsOk f = true := by decide +kernel

/-- `_mi_strlcpy` stores only below `n` and always stores the terminator (n > 0) -/
theorem strlcpy_in_bounds (src : List Char) (n : Nat) :
    (∀ p ∈ strlcpy src n, p.1 < n) ∧ (0 < n → (min src.length (n - 1), '\x00') ∈ strlcpy src n) := by
  unfold strlcpy
  split
  · rename_i h; subst h; exact ⟨by simp, by omega⟩
  · refine ⟨?_, fun _ => by simp⟩
    intro p hp
    simp only [List.mem_append, List.mem_map, List.mem_range, List.mem_singleton] at hp
    rcases hp with ⟨i, hi, rfl⟩ | rfl
    · simp only; omega
    · simp only; omega

/-- the same for **`_mi_strlcpy` as regenerated from src/libc.c** (the `while (*src != 0 && dest_size > 1) *dest++ = *src++` loop as
    `whileN`; loads through the oracle `ld8`, so for every content of memory and every source string, terminated or not): every store
    is a byte store inside `[dest, dest + dest_size)` and the last store is the terminating NUL -/
theorem generated_strlcpy_in_bounds (ld8 : Nat → Nat) (dest src dest_size : Nat) (hd : dest ≠ 0) (hs : src ≠ 0) (hn : 0 < dest_size)
    (hfit : dest + dest_size < 2^64) :
    (∀ c ∈ GenL._mi_strlcpy ld8 dest src dest_size, ∃ a v, c = ("store8", [a, v]) ∧ dest ≤ a ∧ a < dest + dest_size) ∧
    ∃ pre a, GenL._mi_strlcpy ld8 dest src dest_size = pre ++ [("store8", [a, 0])] :=
  StrL.strlcpy_from_cursor ld8 src hd hs hfit (.start hn)

/-- **`_mi_strlcat` as regenerated**: whatever is in the destination (terminated or not), it skips at most `dest_size - 1` bytes and
    copies into the rest: every store is inside `[dest, dest + dest_size)` and the last one is the terminating NUL -/
theorem generated_strlcat_in_bounds (ld8 : Nat → Nat) (dest src dest_size : Nat) (hd : dest ≠ 0) (hs : src ≠ 0) (hn : 0 < dest_size)
    (hfit : dest + dest_size < 2^64) :
    (∀ c ∈ GenL._mi_strlcat ld8 dest src dest_size, ∃ a v, c = ("store8", [a, v]) ∧ dest ≤ a ∧ a < dest + dest_size) ∧
    ∃ pre a, GenL._mi_strlcat ld8 dest src dest_size = pre ++ [("store8", [a, 0])] := by
  unfold GenL._mi_strlcat
  rw [if_neg (by omega)]
  simp only [List.nil_append]
  generalize hr : whileN _ _ _ _ = r
  -- the skipping loop leaves a cursor, and the copy starts there
  have hcur : StrL.Cursor dest dest_size r.1 r.2 := by
    rw [← hr]
    refine whileN_inv (σ := Nat × Nat) (fun st => StrL.Cursor dest dest_size st.1 st.2) _ _ ?_ _ _ (.start hn)
    intro st hcur hc
    simp only [decide_eq_true_eq] at hc
    exact hcur.step hfit hc.2
  exact StrL.strlcpy_from_cursor ld8 src hd hs hfit hcur

/-- NULL arguments and an empty destination: nothing is stored -/
theorem generated_strlcpy_null (ld8 : Nat → Nat) (dest src dest_size : Nat) (h : dest = 0 ∨ src = 0 ∨ dest_size = 0) :
    GenL._mi_strlcpy ld8 dest src dest_size = [] ∧ GenL._mi_strlcat ld8 dest src dest_size = [] := by
  unfold GenL._mi_strlcpy GenL._mi_strlcat
  simp only [if_pos (or_assoc.2 h), and_self]

/-- **`_mi_strnlen` as regenerated** never reports more than `max_len` -/
theorem generated_strnlen_le (ld8 : Nat → Nat) (s max_len : Nat) (hm : max_len < 2^64) : GenL._mi_strnlen ld8 s max_len ≤ max_len := by
  have _ := hm  -- (not needed: a length that wrapped around would only be smaller)
  unfold GenL._mi_strnlen
  split
  · exact Nat.zero_le _
  · refine whileN_inv (fun len => len ≤ max_len) _ _ ?_ _ _ (Nat.zero_le _)
    intro len h hc
    simp only [decide_eq_true_eq] at hc
    exact Nat.le_trans (Nat.mod_le (len + 1) _) hc.2

/-- `_mi_strlcat` stores only below `n`, whatever the current contents of the destination -/
theorem strlcat_in_bounds (dlen : Nat) (src : List Char) (n : Nat) : ∀ p ∈ strlcat dlen src n, p.1 < n := by
  unfold strlcat
  split
  · simp
  · intro p hp
    simp only [List.mem_map] at hp
    obtain ⟨q, hq, rfl⟩ := hp
    have := (strlcpy_in_bounds src (n - min dlen (n - 1))).1 q hq
    simp only; omega

theorem heapBufPrint_go_in_bounds (size used : Nat) (msg : List Char) (acc : List (Nat × Char)) (hu : used < size)
    (hacc : ∀ p ∈ acc, p.1 < size) :
    (∀ p ∈ (heapBufPrint.go size used msg acc).1, p.1 < size) ∧ (heapBufPrint.go size used msg acc).2 < size := by
  induction msg generalizing used acc with
  | nil => exact ⟨forall_mem_snoc hacc hu, hu⟩
  | cons c r ih =>
    unfold heapBufPrint.go
    split
    · refine ⟨?_, hu⟩
      split
      · exact forall_mem_snoc hacc (by simp only; omega)
      · exact hacc
    · exact ih (used + 1) _ (by omega) (forall_mem_snoc hacc hu)

/-- `mi_heap_buf_print` on a caller buffer of any size (0 and 1 included) stores only inside it and keeps `used < size` -/
theorem heapBufPrint_in_bounds (size used : Nat) (msg : List Char) (hu : used < size ∨ size = 0) :
    (∀ p ∈ (heapBufPrint size used msg).1, p.1 < size) ∧ ((heapBufPrint size used msg).2 < size ∨ size = 0) := by
  unfold heapBufPrint
  split
  · exact ⟨by simp, hu⟩
  · rename_i h
    have := heapBufPrint_go_in_bounds size used msg [] (by omega) (by simp)
    exact ⟨this.1, Or.inl this.2⟩

/-- `mi_out_buf` copies only into `out_buf[0 .. MI_MAX_DELAY_OUTPUT)`, and the flush terminator lands inside the
    `MI_MAX_DELAY_OUTPUT + 1` bytes of the buffer, for every message length and every earlier fill level -/
theorem outBuf_in_bounds (outLen n : Nat) :
    (∀ r, (outBuf outLen n).1 = some r → r.1 + r.2 < MAX_DELAY_OUTPUT) ∧ outBufFlushIndex (outBuf outLen n).2 < MAX_DELAY_OUTPUT + 1 := by
  refine ⟨fun r hr => ?_, ?_⟩
  · unfold outBuf at hr
    split at hr
    · cases hr
    · split at hr
      · cases hr
      · cases hr
        dsimp only
        split <;> omega
  · -- whatever was copied: the flush index is `min outLen MAX_DELAY_OUTPUT`
    unfold outBufFlushIndex
    split <;> omega

-- non-vacuity: the hypotheses of the parse theorems are met by ordinary values, and the model computes
example : parseBuf false 10 "E".toList = (.defaulted, 10) := by decide
example : parseBuf true 5 "K".toList = (.defaulted, 5) := by decide
example : parseBuf false 10 "-25".toList = (.initialized, -25) := by decide
example : parseBuf true 0 "2GIB".toList = (.initialized, 2097152) := by decide
example : (vsnprintf 9 "ab%5dxyz".toList [Arg.num 42]).text = "ab   42x".toList := by decide
example : (vsnprintf 8 "ab%5dxyz".toList [Arg.num 42]).text = "ab42   ".toList := by decide   -- no room to align: as the C code

-- non-vacuity of `generated_strlcpy_in_bounds`: "hi" into a 2-byte buffer at 4096 keeps one character and the terminator
example : GenL._mi_strlcpy (fun a => if a = 8192 then 104 else if a = 8193 then 105 else 0) 4096 8192 2 =
    [("store8", [4096, 104]), ("store8", [4097, 0])] := by decide

end C20
