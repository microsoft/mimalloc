import MiVerif.Gen.Override
import MiVerif.Gen.Entry
import MiVerif.Lemmas.Cover
/-! C19 — drop-in override: every standard entry point is served by one allocator.
   `GenV` (Gen/Override.lean) is regenerated on every run from (1) `nm` on the libmimalloc.so and mimalloc.o that
   cmake builds from the current tree and (2) the clang AST of src/alloc-override.c compiled with MI_MALLOC_OVERRIDE: for every function
   defined there, the function it forwards to and the parameters it passes on.  `GenE` (Gen/Entry.lean) is the translation of the
   mimalloc API functions behind them.  The list `required` is the specification: the entry points of the platform (x86-64 Linux, glibc,
   Itanium C++ ABI) named by the property, each with the mimalloc function that implements it.
   realpath is not defined by the library on Linux (glibc's realpath allocates through the overridden malloc): covered by the run-time check. -/

namespace C19

/-- (entry point, implementing mimalloc function, its own parameters passed on in order) -/
def required : List (String × String × List Nat) := [
  ("malloc", "mi_malloc", [0]), ("calloc", "mi_calloc", [0, 1]), ("realloc", "mi_realloc", [0, 1]), ("free", "mi_free", [0]),
  ("posix_memalign", "mi_posix_memalign", [0, 1, 2]), ("aligned_alloc", "mi_aligned_alloc", [0, 1]), ("memalign", "mi_memalign", [0, 1]),
  ("valloc", "mi_valloc", [0]), ("pvalloc", "mi_pvalloc", [0]), ("reallocarray", "mi_reallocarray", [0, 1, 2]),
  ("malloc_usable_size", "mi_usable_size", [0]), ("cfree", "mi_free", [0]),
  ("strdup", "mi_strdup", [0]), ("strndup", "mi_strndup", [0, 1]),
  -- operator new / new[] : plain, nothrow, aligned, aligned nothrow
  ("_Znwm", "mi_new", [0]), ("_Znam", "mi_new", [0]),
  ("_ZnwmRKSt9nothrow_t", "mi_new_nothrow", [0]), ("_ZnamRKSt9nothrow_t", "mi_new_nothrow", [0]),
  ("_ZnwmSt11align_val_t", "mi_new_aligned", [0, 1]), ("_ZnamSt11align_val_t", "mi_new_aligned", [0, 1]),
  ("_ZnwmSt11align_val_tRKSt9nothrow_t", "mi_new_aligned_nothrow", [0, 1]), ("_ZnamSt11align_val_tRKSt9nothrow_t", "mi_new_aligned_nothrow", [0, 1]),
  -- operator delete / delete[] : plain, sized, aligned, sized aligned, nothrow, aligned nothrow
  ("_ZdlPv", "mi_free", [0]), ("_ZdaPv", "mi_free", [0]),
  ("_ZdlPvm", "mi_free_size", [0, 1]), ("_ZdaPvm", "mi_free_size", [0, 1]),
  ("_ZdlPvSt11align_val_t", "mi_free_aligned", [0, 1]), ("_ZdaPvSt11align_val_t", "mi_free_aligned", [0, 1]),
  ("_ZdlPvmSt11align_val_t", "mi_free_size_aligned", [0, 1, 2]), ("_ZdaPvmSt11align_val_t", "mi_free_size_aligned", [0, 1, 2]),
  ("_ZdlPvRKSt9nothrow_t", "mi_free", [0]), ("_ZdaPvRKSt9nothrow_t", "mi_free", [0]),
  ("_ZdlPvSt11align_val_tRKSt9nothrow_t", "mi_free_aligned", [0, 1]), ("_ZdaPvSt11align_val_tRKSt9nothrow_t", "mi_free_aligned", [0, 1]),
  -- the names glibc itself calls
  ("__libc_malloc", "mi_malloc", [0]), ("__libc_calloc", "mi_calloc", [0, 1]), ("__libc_realloc", "mi_realloc", [0, 1]), ("__libc_free", "mi_free", [0]),
  ("__libc_memalign", "mi_memalign", [0, 1]), ("__libc_valloc", "mi_valloc", [0]), ("__libc_pvalloc", "mi_pvalloc", [0]), ("__posix_memalign", "mi_posix_memalign", [0, 1, 2])
]

/-- every entry point is defined by the override source and forwards, with its arguments unchanged and in order, to the designated function of the one allocator -/
theorem every_entry_point_forwards_to_mimalloc : ∀ r ∈ required, r ∈ GenV.forwards :=
  Cover.subset_of_covered (le := fun a b => Cover.leStr a.1 b.1) (by decide +kernel)

/-- every name the statements below look up in the symbol table of the shared library, in one pass over it (Lemmas/Cover.lean) -/
theorem shared_library_has :
    ∀ x ∈ required.map (·.1) ++ required.map (·.2.1) ++ GenV.forwards.map (·.2.1), x ∈ GenV.exportedSo :=
  Cover.subset_of_covered (le := Cover.leStr) (by decide +kernel)

theorem static_object_has : ∀ x ∈ required.map (·.1) ++ required.map (·.2.1), x ∈ GenV.exportedObj :=
  Cover.subset_of_covered (le := Cover.leStr) (by decide +kernel)

/-- ... and the preloadable shared library really exports it (so the dynamic linker binds the program's and libc's / libstdc++'s calls to it) -/
theorem every_entry_point_exported_by_shared_library : ∀ r ∈ required, r.1 ∈ GenV.exportedSo ∧ r.2.1 ∈ GenV.exportedSo :=
  fun _ hr => ⟨shared_library_has _ (List.mem_append_left _ (List.mem_append_left _ (List.mem_map_of_mem hr))),
    shared_library_has _ (List.mem_append_left _ (List.mem_append_right _ (List.mem_map_of_mem hr)))⟩

/-- ... and so does the single object file used for the static override -/
theorem every_entry_point_exported_by_static_object : ∀ r ∈ required, r.1 ∈ GenV.exportedObj ∧ r.2.1 ∈ GenV.exportedObj :=
  fun _ hr => ⟨static_object_has _ (List.mem_append_left _ (List.mem_map_of_mem hr)),
    static_object_has _ (List.mem_append_right _ (List.mem_map_of_mem hr))⟩

/-- the extractor understood every function of the override source (none has a body other than one forwarding call) -/
theorem override_source_fully_understood : GenV.notUnderstood = [] := by decide

/-- no overriding symbol is implemented by anything but a function of the allocator's own API -/
theorem all_forwards_stay_inside_mimalloc : ∀ f ∈ GenV.forwards, f.2.1 ∈ GenV.exportedSo ∧ f.2.1.startsWith "mi_" = true :=
  have h : ∀ f ∈ GenV.forwards, f.2.1.startsWith "mi_" = true := by decide +kernel
  fun f hf => ⟨shared_library_has _ (List.mem_append_right _ (List.mem_map_of_mem hf)), h f hf⟩

/-! the release and query functions behind the entry points are one function: memory from any entry point can be released or queried through any other -/
theorem sized_delete_is_free (p n : Nat) : GenE.mi_free_size p n = [("mi_free", [p])] := rfl
theorem aligned_delete_is_free (p al : Nat) : GenE.mi_free_aligned p al = [("mi_free", [p])] := rfl
theorem sized_aligned_delete_is_free (p n al : Nat) : GenE.mi_free_size_aligned p n al = [("mi_free", [p])] := rfl
theorem usable_size_entries_agree (us : Nat → Nat → Nat) (p : Nat) :
    GenE.mi_malloc_usable_size us p = GenE.mi_usable_size us p ∧ GenE.mi_malloc_size us p = GenE.mi_usable_size us p := ⟨rfl, rfl⟩

/-- operator new returns the block `mi_malloc` returns; only when that fails does the new-handler protocol run, and the nothrow forms
    pass `nothrow = true` to it (so they return NULL instead of throwing / aborting) -/
theorem new_is_malloc (hp : Nat) (a : Nat → Nat → Nat) (b : Nat → Nat → Nat → Nat → Nat) (c : Nat → Nat → Nat → Nat → Nat) (tn : Nat → Nat → Nat → Nat) (size : Nat)
    (h : GenE.mi_malloc hp a b c size ≠ 0) : GenE.mi_new hp a b c tn size = GenE.mi_malloc hp a b c size := by
  unfold GenE.mi_new GenE.mi_heap_alloc_new
  unfold GenE.mi_malloc at h ⊢
  simp only [if_neg h]
theorem new_nothrow_is_malloc_or_handler (hp : Nat) (a : Nat → Nat → Nat) (b : Nat → Nat → Nat → Nat → Nat) (c : Nat → Nat → Nat → Nat → Nat) (tn : Nat → Nat → Nat) (size : Nat) :
    GenE.mi_new_nothrow hp a b c tn size = if GenE.mi_malloc hp a b c size = 0 then tn size 1 else GenE.mi_malloc hp a b c size := by
  unfold GenE.mi_new_nothrow
  simp
/-- strdup / strndup (entry points of the override): the block requested from the allocator has room for the string *and* its terminator,
    exactly `len` bytes are copied to its start and the terminating zero is stored at offset `len` — nothing is written outside the block -/
theorem strndup_stays_inside_its_block (sl : Nat → Nat → Nat) (a : Nat → Nat → Nat) (b : Nat → Nat → Nat → Nat → Nat) (c : Nat → Nat → Nat → Nat → Nat)
    (heap s n : Nat) (hs : s ≠ 0) (hlen : sl s n + 1 < 2^64) (ht : GenE.mi_heap_malloc a b c heap (sl s n + 1) ≠ 0)
    (hno : GenE.mi_heap_malloc a b c heap (sl s n + 1) + sl s n < 2^64) :
    GenE.mi_heap_strndup sl a b c heap s n =
      (GenE.mi_heap_malloc a b c heap (sl s n + 1),
        [("_mi_memcpy", [GenE.mi_heap_malloc a b c heap (sl s n + 1), s, sl s n]), ("store8", [GenE.mi_heap_malloc a b c heap (sl s n + 1) + sl s n, 0])]) := by
  unfold GenE.mi_heap_strndup
  simp only [if_neg hs, Nat.mod_eq_of_lt hlen, if_neg ht, Nat.mul_one, Nat.mod_eq_of_lt hno, List.nil_append, List.cons_append]

theorem strdup_stays_inside_its_block (sl : Nat → Nat) (a : Nat → Nat → Nat) (b : Nat → Nat → Nat → Nat → Nat) (c : Nat → Nat → Nat → Nat → Nat)
    (heap s : Nat) (hs : s ≠ 0) (hlen : sl s + 1 < 2^64) (ht : GenE.mi_heap_malloc a b c heap (sl s + 1) ≠ 0)
    (hno : GenE.mi_heap_malloc a b c heap (sl s + 1) + sl s < 2^64) :
    GenE.mi_heap_strdup sl a b c heap s =
      (GenE.mi_heap_malloc a b c heap (sl s + 1),
        [("_mi_memcpy", [GenE.mi_heap_malloc a b c heap (sl s + 1), s, sl s]), ("store8", [GenE.mi_heap_malloc a b c heap (sl s + 1) + sl s, 0])]) :=
  -- `mi_heap_strdup` has the body of `mi_heap_strndup` with `_mi_strlen s` for `_mi_strnlen s n`
  strndup_stays_inside_its_block (fun s _ => sl s) a b c heap s 0 hs hlen ht hno

end C19
