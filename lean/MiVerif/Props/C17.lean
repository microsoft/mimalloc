import MiVerif.Gen.Secure
import MiVerif.Lemmas.PtrEncode
/-! C17 — hardened builds: encoded free-list links, double-free quick check, link cut, padding canary.
   Statements about the secure-configuration (-DMI_SECURE=4) functions as regenerated from
   include/mimalloc/internal.h and src/free.c (MiVerif/Gen/Secure.lean).  Memory reads through computed
   pointers are oracles (`rd_*`; `rso rbs rsc` = the loads of `slice_offset`, `block_size`, `slice_count`),
   `_mi_error_message(code, …)` is logged as an effect with its code (14 = EFAULT, 11 = EAGAIN).  The last argument
   of `mi_ptr_encode` / `mi_ptr_decode` (`a`, `b`) is the address of the key pair, unused: the keys are passed as `k0`, `k1`. -/

namespace C17
open GenS

/-- encode/decode round trip, for all keys and all 64-bit values: in-page links and the NULL terminator survive -/
theorem decode_encode (null p k0 k1 a b : Nat) (hn : null < 2^64) (hp : p < 2^64) (h0 : k0 < 2^64) (h1 : k1 < 2^64) :
    mi_ptr_decode k0 k1 null (mi_ptr_encode k1 k0 null p a) b = if p = 0 ∨ p = null then 0 else p :=
  C17L.decode_encode null p k0 k1 a b hn hp h0 h1

/-- the encoded value always fits a machine word -/
theorem encode_lt (null p k0 k1 a : Nat) : mi_ptr_encode k1 k0 null p a < 2^64 := by
  unfold mi_ptr_encode
  exact Nat.mod_lt _ (by decide)

/-- double free: the quick filter never hides a block that really is on a free list.  If the first word of `block`
    is the encoding of `next` (what `mi_block_set_next` stores) where `next` is NULL or an 8-aligned block of the same
    page, then `mi_check_is_double_free` is exactly the list search `mi_check_is_double_freex` (an oracle here). -/
theorem double_free_not_filtered (k0 k1 page block next a : Nat)
    (rso rbs rsc : Nat → Nat) (freex : Nat → Nat → Nat)
    (hpg : page < 2^64) (hnx : next < 2^64) (h0 : k0 < 2^64) (h1 : k1 < 2^64) (hne : next ≠ page)
    (hnext : next = 0 ∨ (next % 8 = 0 ∧ mi_is_in_same_page rso rbs rsc block next ≠ 0)) :
    mi_check_is_double_free (mi_ptr_encode k1 k0 page next a) k0 k1 rso rbs rsc freex page block = freex page block := by
  unfold mi_check_is_double_free mi_block_nextx
  dsimp only
  rw [C17L.decode_encode_link hpg hnx h0 h1 hne]
  -- the filter lets NULL and every 8-aligned address of the page through
  have hm : next % 8 = 0 := hnext.elim (fun h => by rw [h]) (fun h => h.1)
  have h8 : next &&& 7 = 0 := (Nat.and_two_pow_sub_one_eq_mod next 3).trans hm
  exact if_pos ⟨h8, hnext.imp_right (fun h => h.2)⟩

/-- forged link: a first word that decodes to a non-NULL address outside the block's page is reported with
    EFAULT (14) and the list is cut (NULL is returned instead of the forged address) -/
theorem forged_link_cut (w k0 k1 page block : Nat) (rso rbs rsc : Nat → Nat)
    (hdec : mi_ptr_decode k0 k1 page w ((page + 56) % 2^64) ≠ 0)
    (hout : mi_is_in_same_page rso rbs rsc block (mi_ptr_decode k0 k1 page w ((page + 56) % 2^64)) = 0) :
    mi_block_next w k0 k1 rso rbs rsc page block = (0, [("_mi_error_message", [14])]) := by
  unfold mi_block_next mi_block_nextx
  dsimp only
  rw [if_pos ⟨hdec, fun h => h hout⟩]
  rfl

/-- a genuine link (NULL, or inside the page) is followed silently -/
theorem genuine_link_followed (k0 k1 page block next a : Nat) (rso rbs rsc : Nat → Nat)
    (hpg : page < 2^64) (hnx : next < 2^64) (h0 : k0 < 2^64) (h1 : k1 < 2^64) (hne : next ≠ page)
    (hnext : next = 0 ∨ mi_is_in_same_page rso rbs rsc block next ≠ 0) :
    mi_block_next (mi_ptr_encode k1 k0 page next a) k0 k1 rso rbs rsc page block = (next, []) := by
  unfold mi_block_next mi_block_nextx
  dsimp only
  -- the error test `next ≠ 0 ∧ not in the page` fails
  rw [C17L.decode_encode_link hpg hnx h0 h1 hne, if_neg (fun h => hnext.elim h.1 h.2)]

/-- what `mi_block_set_next` stores is exactly that encoding (one store into the block's `next` word) -/
theorem set_next_stores_encoding (k0 k1 page block next : Nat) :
    mi_block_set_next k1 k0 page block next = [("set:next", [block, mi_ptr_encode k1 k0 page next ((page + 56) % 2^64)])] := by
  unfold mi_block_set_next mi_block_set_nextx
  simp only [List.nil_append]

/-- padding: a canary word that differs from the expected one, or a delta larger than the usable block size,
    makes the padding check fail (and the usable size is reported as 0) -/
theorem padding_mismatch_detected (bsize k0 k1 page block : Nat) (rd_delta rd_canary : Nat → Nat)
    (h : rd_canary ((block + mi_page_usable_block_size bsize page) % 2^64) ≠ mi_ptr_encode_canary k1 k0 page block 1
         ∨ mi_page_usable_block_size bsize page < rd_delta ((block + mi_page_usable_block_size bsize page) % 2^64)) :
    (mi_page_decode_padding bsize rd_delta rd_canary k0 k1 page block 1 1).1 = 0 ∧
    mi_page_usable_size_of bsize rd_delta rd_canary k0 k1 page block = 0 := by
  unfold mi_page_usable_size_of mi_page_decode_padding
  dsimp only
  -- the test `canary as expected ∧ delta ≤ bsize` fails
  rw [if_neg (fun ok : _ ∧ _ => h.elim (fun hcan => hcan ok.1.symm) (fun hdel => Nat.not_le_of_gt hdel ok.2))]
  exact ⟨rfl, rfl⟩

/-- padding: an intact trailer decodes to the recorded delta, so the usable size is `bsize - delta` -/
theorem padding_intact_decodes (bsize k0 k1 page block : Nat) (rd_delta rd_canary : Nat → Nat)
    (hc : rd_canary ((block + mi_page_usable_block_size bsize page) % 2^64) = mi_ptr_encode_canary k1 k0 page block 1)
    (hd : rd_delta ((block + mi_page_usable_block_size bsize page) % 2^64) ≤ mi_page_usable_block_size bsize page) :
    mi_page_usable_size_of bsize rd_delta rd_canary k0 k1 page block =
      (mi_page_usable_block_size bsize page + 2^64 - rd_delta ((block + mi_page_usable_block_size bsize page) % 2^64)) % 2^64 := by
  unfold mi_page_usable_size_of mi_page_decode_padding
  dsimp only
  rw [if_pos (And.intro hc.symm hd)]
  exact if_pos (by decide)

/-- the low byte of the canary is always 0: when the request fills the block completely (delta = 0) the first byte
    past the request is that byte, so writing any non-zero byte there changes the canary word -/
theorem canary_low_byte_zero (k0 k1 page block a : Nat) : mi_ptr_encode_canary k1 k0 page block a % 256 = 0 := by
  unfold mi_ptr_encode_canary
  -- the canary is masked with 0xffffff00, which has none of the low eight bits
  exact (Nat.and_mod_two_pow (n := 8)).trans (Nat.and_zero _)

/-- non-vacuity -/
example : mi_ptr_decode 7 9 4096 (mi_ptr_encode 9 7 4096 65536 1) 1 = 65536 := by decide

end C17
