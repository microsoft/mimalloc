import MiVerif.Lemmas.PageReach
import MiVerif.Props.C16
/-! C12 — heap walking reports exactly the live blocks.
   The page model is MiVerif/Model/Page.lean (compared with the real `_mi_heap_area_visit_blocks` by direct
   drive: the indices handed to the visitor and `area.used` after every walk); the index arithmetic of the walk (`mi_fast_divide`
   with the magic number of `mi_get_fast_divisor`) is regenerated from src/heap.c and proved exact in C16.fast_divide_correct,
   which is re-stated here because the walk relies on it. -/

namespace C12
open PageM

/-- the walk force-collects the page first: afterwards the local and the thread free list are empty, the invariant still holds and
    the set of live blocks is unchanged -/
theorem collect_before_walk (p : Page) (h : Inv p) :
    let q := lfCollectForce (tfCollect p)
    Inv q ∧ q.lf = [] ∧ q.tf = [] ∧ q.live = p.live :=
  ⟨lfCollectForce_inv _ (tfCollect_inv p h), rfl, rfl, rfl⟩

/-- **exactness**: on a collected page (no pending cross-thread frees) the walk reports exactly the live blocks -/
theorem walk_reports_exactly_live (p : Page) (h : Inv p) (hlf : p.lf = []) (htf : p.tf = []) (i : Nat) :
    i ∈ visitList p ↔ i ∈ p.live := by
  rw [mem_visitList]
  constructor
  · rintro ⟨hi, hnf⟩
    -- `i` is on one of the four lists (pigeonhole); two of them are empty and `free` is excluded
    have hmem := h.mem_of_lt hi
    rw [hlf, htf, List.append_nil, List.append_nil, List.mem_append] at hmem
    exact hmem.resolve_left hnf
  · exact fun hl => ⟨h.live_lt hl, (h.live_not_free hl).1⟩

/-- every block is reported once, in increasing address order -/
theorem walk_no_duplicates (p : Page) : (visitList p).Nodup ∧ (visitList p).Pairwise (· < ·) :=
  ⟨List.nodup_range.sublist List.filter_sublist, List.pairwise_lt_range.filter _⟩

/-- the per-area `used` count equals the number of reported blocks -/
theorem walk_used_count (p : Page) (h : Inv p) (hlf : p.lf = []) (htf : p.tf = []) : (visitList p).length = p.used := by
  -- two duplicate-free lists with the same members
  have hperm : (visitList p).Perm p.live :=
    (List.perm_ext_iff_of_nodup (walk_no_duplicates p).1 (List.nodup_append.mp h.nodup).2.1).mpr
      (walk_reports_exactly_live p h hlf htf)
  rw [hperm.length_eq, h.used, htf, List.length_nil, Nat.zero_add]

/-- the block index the walk computes with the multiply-shift division is the true quotient (offset / block size) on its whole domain -/
theorem walk_index_arithmetic (d n : Nat) (hd : 0 < d) (hd2 : d < 2^32) (hn : n < 2^32) :
    Gen.mi_fast_divide n (Gen.mi_get_fast_divisor d 1 1).1 (Gen.mi_get_fast_divisor d 1 1).2 = n / d :=
  C16.fast_divide_correct d n hd hd2 hn

-- non-vacuity
example : visitList ([Op.extend 6, Op.pop, Op.pop, Op.pop, Op.freeLocal 1, Op.lfCollectForce].foldl step (init 8)) = [0, 2] := by decide

end C12
