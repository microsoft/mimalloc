import MiVerif.Model.Os
import MiVerif.Lemmas.OsAlign
import MiVerif.Lemmas.Control
/-! C11 — freed memory is given back: OS regions unmapped.
   `GenO._mi_os_free_ex` is regenerated from src/os.c on every run (effect log of the
   requests sent to mi_os_prim_free); the allocation side is MiVerif/Model/Os.lean (compared with the real functions
   through the OS shim).  Page size `ps` is any power of two 4 KiB .. 64 KiB. -/

namespace C11
open OsM

/-- a memory id that records a non-NULL base and a non-zero size makes `_mi_os_free_ex` ask the OS to release exactly the
    recorded range — whatever pointer and whatever size the caller passes -/
theorem free_releases_recorded (ps addr size b s : Nat) (hb : b ≠ 0) (hs : s ≠ 0) :
    osFreeRequests ps addr size { kind := 3, base := b, size := s } = [(b, s)] := by
  unfold osFreeRequests GenO._mi_os_free_ex GenO.mi_memkind_is_os
  by_cases hab : b = addr
  · subst hab; simp [hs, hb]
  · simp [hs, hb, hab]

/-- memory that did not come from the OS (arena, static, external) is never unmapped by `_mi_os_free_ex` -/
theorem free_ignores_non_os (ps addr size kind b s : Nat) (hk : kind < 3) :
    osFreeRequests ps addr size { kind := kind, base := b, size := s } = [] := by
  unfold osFreeRequests GenO._mi_os_free_ex GenO.mi_memkind_is_os
  have : ¬ (kind ≥ 3) := by omega
  simp [this]

/-- round trip for `_mi_os_alloc`: freeing with the recorded memory id releases exactly what stayed mapped -/
theorem os_alloc_roundtrip (ps p size : Nat) (hp : p ≠ 0) (hp2 : p < 2^63) (hg : GenO._mi_os_good_alloc_size ps size ≠ 0) :
    osFreeRequests ps (osAlloc ps p size).ptr size (osAlloc ps p size).memid = [(osAlloc ps p size).mapped] := by
  have _ := hp2  -- (not needed)
  unfold osAlloc; dsimp only
  exact free_releases_recorded ps p size p _ hp hg

/-- round trip for `_mi_os_alloc_aligned` (sizes already a multiple of the page size, as `_mi_os_good_alloc_size` makes them) -/
theorem os_alloc_aligned_roundtrip (ps p size : Nat) (hp : p ≠ 0) (hp2 : p < 2^63) (hg : GenO._mi_os_good_alloc_size ps size ≠ 0)
    (hpage : GenO._mi_align_up (GenO._mi_os_good_alloc_size ps size) ps = GenO._mi_os_good_alloc_size ps size) :
    osFreeRequests ps (osAllocAligned ps p size).ptr size (osAllocAligned ps p size).memid = [(osAllocAligned ps p size).mapped] := by
  have _ := hp2  -- (not needed)
  unfold osAllocAligned; dsimp only
  rw [hpage]
  exact free_releases_recorded ps p size p _ hp hg

/-- round trip for `_mi_os_alloc_aligned_at_offset`: the caller frees an *interior* pointer (`start + extra`) and the whole
    over-allocation that starts at `start` is released -/
theorem os_alloc_at_offset_roundtrip (ps start size alignment offset : Nat) (hp : start ≠ 0)
    (hfit : start + (GenO._mi_align_up offset alignment - offset) < 2^63)
    (hg : GenO._mi_os_good_alloc_size ps (size + (GenO._mi_align_up offset alignment - offset)) ≠ 0)
    (hpage : GenO._mi_align_up (GenO._mi_os_good_alloc_size ps (size + (GenO._mi_align_up offset alignment - offset))) ps
             = GenO._mi_os_good_alloc_size ps (size + (GenO._mi_align_up offset alignment - offset))) :
    osFreeRequests ps (osAllocAlignedAtOffset ps start size alignment offset).ptr size (osAllocAlignedAtOffset ps start size alignment offset).memid
      = [(osAllocAlignedAtOffset ps start size alignment offset).mapped] := by
  have _ := hfit  -- (not needed)
  unfold osAllocAlignedAtOffset osAllocAligned; dsimp only
  rw [hpage]
  exact free_releases_recorded ps _ size start _ hp hg

/-- the fallback of `_mi_os_free_ex` when a memory id carries no size: the page-rounded request size is used, never 0 for a
    non-empty request (the defect repaired in /repo dropped this value) -/
theorem free_fallback_size (ps addr size : Nat) (ha : addr ≠ 0) (hs : GenO._mi_os_good_alloc_size ps size ≠ 0) :
    osFreeRequests ps addr size { kind := 3, base := addr, size := 0 } = [(addr, GenO._mi_os_good_alloc_size ps size)] := by
  unfold osFreeRequests GenO._mi_os_free_ex GenO.mi_memkind_is_os
  simp [hs, ha]

-- non-vacuity: a 100 MiB block at a concrete address
example : osFreeRequests 4096 0x7f0000000000 104857600 (osAlloc 4096 0x7f0000000000 104857600).memid = [(0x7f0000000000, 104857600)] := by decide

/-- **the over-allocate-and-trim fallback of `mi_os_prim_alloc_aligned`, as regenerated from src/os.c** (taken when the first attempt `p1`
    comes back unaligned — e.g. after the address-hinted `mmap` was refused — on systems that can unmap parts of a mapping; the OS
    allocation primitive is an arbitrary function): of the over-allocation `[q, q + size + alignment)` it gives back the front
    `[q, P)` and the rest after `P + size`, returns `P` — the first multiple of the alignment at or after `q` — and records *that* as the
    base: the recorded base and size describe exactly the memory that is still mapped, which is what `_mi_os_free_ex` later unmaps
    (`free_releases_recorded`); recording `q` instead (seed C07-4) unmaps the front a second time -/
theorem generated_os_alloc_aligned_fallback_keeps_what_it_records (ps : Nat) (alloc : Nat → Nat → Nat → Nat → Nat → Nat → Nat)
    (hpf size alignment commit al il iz base p1 q P : Nat)
    (hA : alignment ≥ ps) (hpow : alignment &&& (((alignment + 18446744073709551616 - 1)) % 18446744073709551616) = 0) (ha0 : 0 < alignment)
    (ha63 : alignment < 2^63)
    (hsz : GenO._mi_align_up size ps = size)
    (hfit : size + alignment < 2^64 - 1)
    (hp1e : alloc size alignment commit (if ¬ (commit ≠ 0) then (if 0 ≠ 0 then 1 else 0) else al) il iz = p1)
    (hp1 : p1 ≠ 0) (hun : p1 % alignment ≠ 0)
    (hpart : hpf ≠ 0)
    (hqe : alloc (size + alignment) 1 commit (if 0 ≠ 0 then 1 else 0) il iz = q)
    (hq : q ≠ 0) (hqfit : q + (size + alignment) < 2^64)
    (hP : P = (q + alignment - 1) / alignment * alignment) :
    GenO.mi_os_prim_alloc_aligned ps alloc hpf size alignment commit al il iz base =
      (P, P, [("mi_os_prim_free", [p1, size, (if commit ≠ 0 then size else 0)])]
              ++ (if P - q > 0 then [("mi_os_prim_free", [q, P - q, (if commit ≠ 0 then P - q else 0)])] else [])
              ++ (if size + alignment - (P - q) - size > 0 then
                    [("mi_os_prim_free", [P + size, size + alignment - (P - q) - size, (if commit ≠ 0 then size + alignment - (P - q) - size else 0)])] else []))
    ∧ q ≤ P ∧ P < q + alignment ∧ P % alignment = 0 := by
  open OsAlignL GenO in
  have _ := hfit  -- (implied by `hq` and `hqfit`)
  obtain ⟨hq1, hq2⟩ : q ≤ P ∧ P < q + alignment := hP ▸ Word.roundUp_bounds q ha0
  refine ⟨?_, hq1, hq2, hP ▸ Nat.mul_mod_left _ _⟩
  obtain ⟨htrim, eadd, epost⟩ := trim_sizes hq2 hqfit
  have hbranch : ¬ ¬ ((alignment ≥ ps) ∧ ((alignment &&& (((alignment + 18446744073709551616 - 1)) % 18446744073709551616)) = 0)) :=
    fun h => h ⟨hA, hpow⟩
  have hmax : (18446744073709551615 + 18446744073709551616 - alignment) % 18446744073709551616 = 18446744073709551615 - alignment :=
    Word.wrap_sub (Nat.le_of_lt (Nat.lt_trans ha63 (by decide))) (by decide)
  have hfits : ¬ (size ≥ 18446744073709551615 - alignment) := by omega
  have hpartial : ¬ ¬ (hpf ≠ 0) := fun h => h hpart
  have eP : mi_align_up_ptr q alignment = P := by
    unfold mi_align_up_ptr
    rw [up_eq q alignment ha0 (by omega), hP]
  have hpre : Int.toNat (((Int.tdiv (sw64 (((P : Nat) : Int) - ((q : Nat) : Int))) 1)) % 18446744073709551616) = P - q :=
    Word.sdiff_toNat hq1 (by omega)
  unfold mi_os_prim_alloc_aligned
  simp only [if_neg hbranch, hsz, hp1e, if_neg hp1, if_neg hun, if_pos hp1, hmax, if_neg hfits, htrim, if_neg hpartial, hqe, if_neg hq, eP, hpre, epost, eadd]
  -- each conditional `mi_os_prim_free` is appended to the log so far
  simp only [List.nil_append, ite_append]

-- non-vacuity: a 64 KiB request aligned to 32 MiB whose first attempt and over-allocation both come back 10 MiB past a 32 MiB boundary:
-- 22 MiB of front and 10 MiB of rest are given back, the aligned 64 KiB in between are kept and recorded
example : GenO.mi_os_prim_alloc_aligned 4096 (fun sz al _ _ _ _ => if al = 1 then 139706807357440 else 139638087880704) 1 65536 33554432 1 0 0 0 0 =
    (139706830422016, 139706830422016,
     [("mi_os_prim_free", [139638087880704, 65536, 65536]), ("mi_os_prim_free", [139706807357440, 23064576, 23064576]),
      ("mi_os_prim_free", [139706830487552, 10489856, 10489856])]) := by decide

/-- **`_mi_os_good_alloc_size` as regenerated from src/os.c**, for every page size that divides 64 KiB and every request below 2^63:
    the rounded size is at least the request, a whole number of pages (so the page rounding `_mi_os_alloc_aligned` applies on top of
    it changes nothing), never 0 for a non-empty request, and larger than the request by less than one page below 512 KiB and by
    less than an eighth of the request above — the hypotheses `hg` / `hpage` of the round-trip theorems above are theorems about the
    generated code, not assumptions -/
theorem generated_good_alloc_size_is_whole_pages (ps size : Nat) (hps : 0 < ps) (hd : ps ∣ 65536) (hs : size < 2^63) :
    size ≤ GenO._mi_os_good_alloc_size ps size
    ∧ GenO._mi_os_good_alloc_size ps size < size + size / 8 + ps
    ∧ GenO._mi_os_good_alloc_size ps size % ps = 0
    ∧ (size ≠ 0 → GenO._mi_os_good_alloc_size ps size ≠ 0)
    ∧ GenO._mi_align_up (GenO._mi_os_good_alloc_size ps size) ps = GenO._mi_os_good_alloc_size ps size := by
  have hps2 : ps ≤ 65536 := Nat.le_of_dvd (by decide) hd
  obtain ⟨a, hpos, hover, hdv, heq⟩ := OsAlignL.good_eq ps size hps hd hs
  obtain ⟨f1, f2⟩ := Word.roundUp_bounds size hpos
  rw [← heq] at f1 f2
  have hpage : GenO._mi_os_good_alloc_size ps size % ps = 0 :=
    Nat.mod_eq_zero_of_dvd (heq ▸ Nat.dvd_trans hdv (Nat.dvd_mul_left _ _))
  refine ⟨f1, by omega, hpage, fun h0 => by omega, ?_⟩
  rw [OsAlignL.up_eq _ ps hps (by omega), Word.roundUp_of_mod hps hpage]

/-- round trip for `_mi_os_alloc_aligned` with no assumption about the rounded size left: every non-empty request below 2^63, every
    page size dividing 64 KiB -/
theorem os_alloc_aligned_roundtrip_every_size (ps p size : Nat) (hp : p ≠ 0) (hp2 : p < 2^63) (hps : 0 < ps) (hd : ps ∣ 65536)
    (hs0 : size ≠ 0) (hs : size < 2^63) :
    osFreeRequests ps (osAllocAligned ps p size).ptr size (osAllocAligned ps p size).memid = [(osAllocAligned ps p size).mapped] := by
  obtain ⟨_, _, _, g0, gp⟩ := generated_good_alloc_size_is_whole_pages ps size hps hd hs
  exact os_alloc_aligned_roundtrip ps p size hp hp2 (g0 hs0) gp

/-- round trip for `_mi_os_alloc` likewise -/
theorem os_alloc_roundtrip_every_size (ps p size : Nat) (hp : p ≠ 0) (hp2 : p < 2^63) (hps : 0 < ps) (hd : ps ∣ 65536)
    (hs0 : size ≠ 0) (hs : size < 2^63) :
    osFreeRequests ps (osAlloc ps p size).ptr size (osAlloc ps p size).memid = [(osAlloc ps p size).mapped] := by
  obtain ⟨_, _, _, g0, _⟩ := generated_good_alloc_size_is_whole_pages ps size hps hd hs
  exact os_alloc_roundtrip ps p size hp hp2 (g0 hs0)

/-- what the fallback of `_mi_os_free_ex` releases for a memory id without a recorded size covers the request and is whole pages -/
theorem free_fallback_covers_request (ps addr size : Nat) (ha : addr ≠ 0) (hps : 0 < ps) (hd : ps ∣ 65536) (hs0 : size ≠ 0) (hs : size < 2^63) :
    ∃ g, osFreeRequests ps addr size { kind := 3, base := addr, size := 0 } = [(addr, g)] ∧ size ≤ g ∧ g % ps = 0 := by
  obtain ⟨g1, _, g3, g0, _⟩ := generated_good_alloc_size_is_whole_pages ps size hps hd hs
  exact ⟨_, free_fallback_size ps addr size ha (g0 hs0), g1, g3⟩

-- non-vacuity: 4 KiB pages, a 3 MiB + 1 byte request is rounded to 3 MiB + 256 KiB
example : GenO._mi_os_good_alloc_size 4096 3145729 = 3407872 := by decide
example : (4096 : Nat) ∣ 65536 := ⟨16, by decide⟩

end C11
