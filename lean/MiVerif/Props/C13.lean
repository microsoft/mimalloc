import MiVerif.Lemmas.CommitMask
import MiVerif.Lemmas.SegmentCommit
import MiVerif.Lemmas.ArenaCommit
import MiVerif.Lemmas.OsAlign
import MiVerif.Lemmas.ArenaBitmap
/-! C13 — guarantees hold under every option setting; purging never touches live data.
   `Gen.mi_segment_commit_mask` (start / size / mask of the range that is committed or purged for a given
   block range) is regenerated from src/segment.c on every run.  The option settings themselves are universally quantified in the
   models of C01/C03/C04/C05/C12 (they do not mention options at all); what options change is which ranges are committed, purged and
   recommitted, and that is what is proved here and searched by re-running the shadow oracle under option rows in a build where
   decommit really revokes access (MI_DEBUG). -/

namespace C13
open Gen

/-- **purging is conservative**: for a block range `[seg + D, seg + D + size)` inside a normal segment (after the info slices), the range
    that `mi_segment_purge` / `mi_segment_schedule_purge` hand to the OS (conservative = true) is empty or lies inside the freed range
    — so decommit / reset never reaches a byte of a neighbouring page -/
theorem purge_range_inside_freed_range {α : Type} (e : α) (mk : Nat → Nat → α) (cin : α)
    (info slices seg D size a b c : Nat)
    (hseg : seg + 33554432 < 2^64) (hin : D + size ≤ slices * 65536) (hs : slices ≤ 512)
    (hinfo : info * 65536 ≤ D) (hsz : 0 < size) :
    (mi_segment_commit_mask e 0 info (fun _ => slices * 65536) mk cin seg 1 (seg + D) size a b c).2.1 = 0 ∨
    (seg + D ≤ (mi_segment_commit_mask e 0 info (fun _ => slices * 65536) mk cin seg 1 (seg + D) size a b c).1 ∧
     (mi_segment_commit_mask e 0 info (fun _ => slices * 65536) mk cin seg 1 (seg + D) size a b c).1 +
       (mi_segment_commit_mask e 0 info (fun _ => slices * 65536) mk cin seg 1 (seg + D) size a b c).2.1 ≤ seg + D + size) :=
  C13L.purge_range_inside_freed_range e mk cin info slices seg D size a b c hseg hin hs hinfo hsz

/-- **committing is liberal**: the range that `mi_segment_commit` asks the OS to commit for a block range (conservative = false) covers
    the whole block range, is aligned to the 64 KiB commit unit relative to the segment, stays inside the segment, and the commit mask
    is exactly that range in commit units — so a page handed out after a successful commit is accessible under every option setting
    that makes commits lazy (C07 `alloc_accessible` rests on the same closed form, `C13L.liberal_covers`) -/
theorem commit_range_covers_block_range (info slices seg D size a b c : Nat)
    (hseg : seg + 33554432 < 2^64) (hin : D + size ≤ slices * 65536) (hs : slices ≤ 512) (hinfo : info ≤ 512) (hsz : 0 < size) :
    ∃ st en, st ≤ D ∧ D + size ≤ en ∧ en ≤ slices * 65536 ∧ st % 65536 = 0 ∧ en % 65536 = 0 ∧ st < en ∧
      mi_segment_commit_mask (0, 0) 0 info (fun _ => slices * 65536) (fun i n => (i, n)) (0, 0) seg 0 (seg + D) size a b c
        = (seg + st, en - st, (st / 65536, (en - st) / 65536)) := by
  have _ := hinfo  -- (not needed)
  open C13L in
  rw [commit_mask_closed (0, 0) (fun i n => (i, n)) (0, 0) info slices seg D size 0 a b c hseg (by omega) hs hsz (by omega)]
  obtain ⟨hst, hen, hj, hij⟩ := liberal_range D size slices hin hsz
  generalize lo 0 D = i at hst hij ⊢
  generalize hi 0 D size slices = j at hen hj hij ⊢
  refine ⟨i * 65536, j * 65536, hst, hen, Nat.mul_le_mul_right _ hj, Nat.mul_mod_left _ _, Nat.mul_mod_left _ _,
    Nat.mul_lt_mul_of_pos_right hij (by decide), ?_⟩
  rw [if_pos hij, ← Nat.sub_mul, Nat.mul_div_cancel _ (by decide : 0 < 65536), Nat.mul_div_cancel _ (by decide : 0 < 65536)]

/-- **the generated `mi_segment_purge` only touches the freed range** (src/segment.c as regenerated by extract/masktr.py, OS answers
    arbitrary — decommit or reset, delay or not): purging the block range `[base + D, base + D + size)` of a segment leaves the commit
    bit and the accessibility of every 64 KiB unit that is not completely inside that range as they were — so a live block of a
    neighbouring page is never decommitted or reset, under any option setting -/
theorem generated_segment_purge_touches_only_freed_range (σ : GenC.SegSt) (D size : Nat) (needsRecommit osGone : Bool)
    (g : C07G.Geo σ D size) (hin : D + size ≤ σ.slices * 65536) (hinfo : σ.info * 65536 ≤ D) (k : Nat)
    (hk : ¬ (D ≤ k * 65536 ∧ (k + 1) * 65536 ≤ D + size)) :
    (GenC.mi_segment_purge σ ((σ.base + D : Nat) : Int) (size : Int) needsRecommit osGone).1.os k = σ.os k ∧
    (GenC.mi_segment_purge σ ((σ.base + D : Nat) : Int) (size : Int) needsRecommit osGone).1.commit k = σ.commit k := by
  have _ := hin; have _ := hinfo  -- (not needed: the frame holds wherever the range lies)
  refine (C07G.purge_spec σ _ _ needsRecommit osGone).frame (C07G.commitMask_unitsOf σ 1 D size g) ?_
  -- the (conservative) mask of the request does not contain `k`
  rw [C07G.commitMask_eq σ 1 D size g, Bool.eq_false_iff]
  intro hm
  obtain ⟨h1, h2⟩ := MaskAlg.mRange_iff.1 hm
  exact hk (C13L.conservative_inside D size σ.slices k h1 (by omega))

/-- **the generated `mi_arena_purge` only touches the block range it was given** (src/arena.c as regenerated by extract/arenatr.py):
    a block outside `[idx, idx + n)` keeps its accessibility, its committed bit and its in-use bit — `_mi_arena_free` passes the
    blocks being freed, `mi_arena_try_purge` ranges it has claimed in `blocks_inuse` first -/
theorem generated_arena_purge_touches_only_its_range (σ : GenR.ArSt) (idx n : Int) (nr1 g1 nr2 g2 : Bool) (k : Nat)
    (hk : ¬ (idx ≤ (k : Int) ∧ (k : Int) < idx + n)) :
    (GenR.mi_arena_purge σ idx n nr1 g1 nr2 g2).os k = σ.os k ∧
    (GenR.mi_arena_purge σ idx n nr1 g1 nr2 g2).committed k = σ.committed k ∧
    (GenR.mi_arena_purge σ idx n nr1 g1 nr2 g2).inuse k = σ.inuse k := by
  have hk : GenR.inRange idx n k = false := decide_eq_false hk
  exact (C07A.purge_spec σ idx n nr1 g1 nr2 g2).elim (fun h => h.frame hk) (fun h => h.frame hk)

/-- the same for the generated `mi_arena_schedule_purge`, for every purge delay (negative = never, 0 = at once, positive = scheduled) -/
theorem generated_arena_schedule_purge_touches_only_its_range (σ : GenR.ArSt) (idx n delay : Int) (preloading nr1 g1 nr2 g2 : Bool)
    (now : Int) (k : Nat) (hk : ¬ (idx ≤ (k : Int) ∧ (k : Int) < idx + n)) :
    (GenR.mi_arena_schedule_purge σ idx n delay preloading nr1 g1 nr2 g2 now).os k = σ.os k ∧
    (GenR.mi_arena_schedule_purge σ idx n delay preloading nr1 g1 nr2 g2 now).committed k = σ.committed k ∧
    (GenR.mi_arena_schedule_purge σ idx n delay preloading nr1 g1 nr2 g2 now).inuse k = σ.inuse k := by
  rcases C07A.schedule_spec σ idx n delay preloading nr1 g1 nr2 g2 now with e | c
  · rw [e]; exact generated_arena_purge_touches_only_its_range σ idx n nr1 g1 nr2 g2 k hk
  · rw [c.os, c.committed, c.inuse]; exact ⟨rfl, rfl, rfl⟩

/-- **the generated `mi_arena_purge_range` stays inside the claimed bits** (src/arena.c, two nested `while` loops regenerated by
    extract/translate.py as `whileN`): `mi_arena_try_purge` claims the bits `[startidx, startidx + bitlen)` of bitmap field `idx` in
    `blocks_inuse` (so no live block is in them) and then calls this function; every `mi_arena_purge` it issues (the effect log, for
    every purge mask and every fuel) covers blocks inside that claimed range only, and only blocks whose purge bit is set -/
theorem generated_arena_purge_range_stays_in_claimed_range (arena idx startidx bitlen purge : Nat) (h : startidx + bitlen ≤ 64)
    (hi : idx * 64 + 64 < 2^64) :
    ∀ c ∈ (GenL.mi_arena_purge_range arena idx startidx bitlen purge).2,
      ∃ b cnt, c = ("mi_arena_purge", [arena, idx * 64 + b, cnt]) ∧ startidx ≤ b ∧ 0 < cnt ∧ b + cnt ≤ startidx + bitlen ∧
        ∀ j, j < cnt → purge.testBit (b + j) = true := by
  let Good (c : String × List Nat) : Prop := ∃ b cnt, c = ("mi_arena_purge", [arena, idx * 64 + b, cnt]) ∧ startidx ≤ b ∧ 0 < cnt ∧
    b + cnt ≤ startidx + bitlen ∧ ∀ j, j < cnt → purge.testBit (b + j) = true
  unfold GenL.mi_arena_purge_range
  simp only [Nat.mod_eq_of_lt (Nat.lt_of_le_of_lt h (by decide : 64 < 18446744073709551616))]
  -- outer loop, on (eff_out, all_purged, bitidx): the scan never goes back and every call logged so far is as claimed
  refine (whileN_inv (σ := List (String × List Nat) × Nat × Nat) (fun st => startidx ≤ st.2.2 ∧ ∀ c ∈ st.1, Good c)
    _ _ ?_ _ _ ⟨Nat.le_refl _, fun c hc => by cases hc⟩).2
  intro st ⟨hs, hg⟩ hc
  simp only [decide_eq_true_eq] at hc
  have hin := PurgeRangeL.inner_inv purge st.2.2 (startidx + bitlen) h hc 18446744073709551616
  generalize whileN 18446744073709551616 _ _ 0 = count at hin ⊢
  obtain ⟨hle, hbits⟩ := hin
  rw [Nat.mod_eq_of_lt (a := count + 1) (by omega), Nat.mod_eq_of_lt (a := st.2.2 + (count + 1)) (by omega)]
  refine ⟨Nat.le_trans hs (Nat.le_add_right _ _), ?_⟩
  show ∀ c ∈ (if count > 0 then _ else _ : List (String × List Nat) × Nat).1, _
  refine iteInduction (motive := fun r : List (String × List Nat) × Nat => ∀ c ∈ r.1, Good c) (fun hpos => ?_) (fun _ => hg)
  refine forall_mem_snoc hg ?_
  rw [BitmapMaskL.index_create_eq idx st.2.2 (by omega)]
  exact ⟨st.2.2, count, rfl, hs, hpos, hle, fun j hj => PurgeRangeL.bit_of_mask purge _ (by omega) (hbits j hj)⟩

/-- **the OS layer decommits / resets only inside the range it is given** (`mi_os_page_align_areax` as regenerated from src/os.c, the
    rounding behind `_mi_os_decommit`, `_mi_os_reset` and `_mi_os_purge`; any page size up to 1 GiB): the range handed to the system call
    is empty or a page-aligned range inside `[addr, addr + size)` — a partial page at either end, which may hold a neighbouring live
    block, is never touched -/
theorem os_decommit_and_reset_stay_inside_the_request (ps addr size : Nat) (hps : 0 < ps) (hps2 : ps ≤ 2^30) (ha : addr ≠ 0) (hs : size ≠ 0)
    (hfit : addr + size + ps < 2^63) :
    (Gen.mi_os_page_align_areax ps 1 addr size 1).2 = 0 ∨
    (addr ≤ (Gen.mi_os_page_align_areax ps 1 addr size 1).1 ∧
     (Gen.mi_os_page_align_areax ps 1 addr size 1).1 + (Gen.mi_os_page_align_areax ps 1 addr size 1).2 ≤ addr + size ∧
     (Gen.mi_os_page_align_areax ps 1 addr size 1).1 % ps = 0 ∧ (Gen.mi_os_page_align_areax ps 1 addr size 1).2 % ps = 0) := by
  have _ := hps2  -- (not needed)
  rw [OsAlignL.area_eq ps 1 addr size hps ha hs hfit]
  simp only [if_pos (by decide : (1:Nat) ≠ 0)]
  have hu := (Word.roundUp_bounds addr hps).1
  have hd := Nat.div_mul_le_self (addr + size) ps
  split
  · left; rfl
  · right
    refine ⟨hu, by dsimp only; omega, Nat.mul_mod_left _ _, ?_⟩
    dsimp only
    rw [← Nat.sub_mul]; exact Nat.mul_mod_left _ _

/-- **… and commits a range that covers the request** (liberal rounding, `_mi_os_commit`): page-aligned start at or before `addr`,
    end at or after `addr + size` -/
theorem os_commit_covers_the_request (ps addr size : Nat) (hps : 0 < ps) (hps2 : ps ≤ 2^30) (ha : addr ≠ 0) (hs : size ≠ 0)
    (hfit : addr + size + ps < 2^63) :
    (Gen.mi_os_page_align_areax ps 0 addr size 1).1 ≤ addr ∧
    addr + size ≤ (Gen.mi_os_page_align_areax ps 0 addr size 1).1 + (Gen.mi_os_page_align_areax ps 0 addr size 1).2 ∧
    (Gen.mi_os_page_align_areax ps 0 addr size 1).1 % ps = 0 := by
  have _ := hps2  -- (not needed)
  rw [OsAlignL.area_eq ps 0 addr size hps ha hs hfit]
  simp only [if_neg (by decide : ¬ (0:Nat) ≠ 0)]
  have hd := Nat.div_mul_le_self addr ps
  have hu := (Word.roundUp_bounds (addr + size) hps).1
  rw [if_neg (by omega)]
  exact ⟨hd, by dsimp only; omega, Nat.mul_mod_left _ _⟩

-- non-vacuity: 10000 bytes at 0x10000100 with 4 KiB pages: decommit touches the one whole page inside, commit covers four pages
example : Gen.mi_os_page_align_areax 4096 1 268435712 10000 1 = (268439552, 4096) ∧
          Gen.mi_os_page_align_areax 4096 0 268435712 10000 1 = (268435456, 12288) := by decide

/-- non-vacuity: the geometry hypotheses hold for a page of a real segment (base 2^25-aligned, 1 info slice, 512 slices, the page at
    slice 1 of 64 KiB), and unit 2 is then outside the freed range -/
example : C07G.Geo { commit := fun _ => true, purge := fun _ => false, os := fun _ => true, expire := 0, allowPurge := true,
                     allowDecommit := true, info := 1, slices := 512, base := 33554432 } 65536 65536 ∧
          ¬ ((65536:Nat) ≤ 2 * 65536 ∧ (2 + 1) * 65536 ≤ 65536 + 65536) :=
  ⟨⟨by decide, by decide, by decide, by decide, by decide⟩, by decide⟩

-- non-vacuity of `generated_arena_purge_range_stays_in_claimed_range`: 22 claimed bits from bit 5 on, a random purge mask
example : (GenL.mi_arena_purge_range 7 0 5 22 4637806973071807703).2 =
    [("mi_arena_purge", [7, 6, 2]), ("mi_arena_purge", [7, 10, 1]), ("mi_arena_purge", [7, 12, 1]), ("mi_arena_purge", [7, 14, 1]),
     ("mi_arena_purge", [7, 17, 2]), ("mi_arena_purge", [7, 22, 2]), ("mi_arena_purge", [7, 25, 2])] := by decide

end C13
