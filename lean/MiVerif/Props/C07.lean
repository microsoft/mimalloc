import MiVerif.Model.Commit
import MiVerif.Lemmas.CommitMask
import MiVerif.Lemmas.Masks
import MiVerif.Lemmas.SegmentCommit
import MiVerif.Lemmas.ArenaCommit
import MiVerif.Lemmas.MaskLoop
import MiVerif.Lemmas.CommittedSize
/-! C07 — operating-system refusals are survived without crash or corruption.
   Model: MiVerif/Model/Commit.lean.  The outcome of every OS request is an argument of the operations, so a
   statement for all arguments / all operation lists is a statement for every fault sequence (single, persistent, any pattern).
   What is proved: the bookkeeping (segment commit_mask, arena blocks_committed) never records memory whose commit did not succeed
   (anchor "must only record memory whose commit really succeeded"), a refused commit leaves the bookkeeping unchanged and is reported,
   and every page / arena range handed out as committed is accessible.  The range arithmetic is the regenerated
   `Gen.mi_segment_commit_mask` (liberal direction: `C13L.liberal_covers`, Lemmas/CommitMask.lean).
   The segment-level statements are proved twice: over the hand-written model (compared with the code step by step) and over
   `GenC.mi_segment_commit / _ensure_committed / _purge / _schedule_purge`, which are regenerated from src/segment.c on every run.
   Not modelled (covered by the fault enumeration on the real allocator only): the NULL propagation through segment / page / heap
   allocation, the retry after collect, thread metadata allocation, mmap / munmap refusals. -/

namespace C07
open CommitM MaskAlg

/-- the commit step of the hand model in the case description it shares with the generated `mi_segment_commit` (`C07G.commit_spec`) -/
theorem segCommit_spec (s : Seg) (D size : Nat) (ok : Bool) :
    CommitCase Seg.commit Seg.os s (GenC.mRange (rangeOf s 0 D size).2.2.1 (rangeOf s 0 D size).2.2.2)
      (GenC.mRange (rangeOf s 0 D size).2.2.1 (rangeOf s 0 D size).2.2.2)
      (((rangeOf s 0 D size).2.2.2 = 0 ∨ (rangeOf s 0 D size).2.1 = 0) ∨
        allSet s.commit (rangeOf s 0 D size).2.2.1 (rangeOf s 0 D size).2.2.2 = true) ok (segCommit s D size ok) := by
  unfold segCommit
  generalize rangeOf s 0 D size = r
  by_cases he : r.2.2.2 = 0 ∨ r.2.1 = 0
  · rw [if_pos he]; exact .covered s rfl rfl (Or.inl he)
  rw [if_neg he]
  by_cases hall : allSet s.commit r.2.2.1 r.2.2.2 = true
  · rw [if_pos hall]; exact .covered _ rfl rfl (Or.inr hall)
  rw [if_neg hall]
  cases ok
  · exact .refused rfl
  · exact .granted _ rfl (setR_eq _ _ _) (setR_eq _ _ _)

/-- a refused commit is reported and changes nothing; an accepted one may only add what the OS granted -/
theorem commit_refused (s : Seg) (D size : Nat) :
    ((segCommit s D size false).2 = false → (segCommit s D size false).1 = s) ∧
    (segCommit s D size false).1.commit = s.commit ∧ (segCommit s D size false).1.os = s.os :=
  (segCommit_spec s D size false).of_refused

theorem commit_inv (s : Seg) (D size : Nat) (ok : Bool) (h : SInv s) : SInv (segCommit s D size ok).1 :=
  (segCommit_spec s D size ok).inv rfl h

theorem purge_inv (s : Seg) (D size : Nat) (nr og : Bool) (hon : og = true → nr = true) (h : SInv s) : SInv (segPurge s D size nr og) := by
  unfold segPurge
  generalize rangeOf s 1 D size = r
  by_cases he : r.2.2.2 = 0 ∨ r.2.1 = 0
  · rw [if_pos he]; exact h
  rw [if_neg he]
  by_cases hany : anySet s.commit r.2.2.1 r.2.2.2 = true
  · rw [if_pos hany]
    exact fun k => clrR_pt hon (h k)
  · rw [if_neg hany]; exact h

theorem alloc_inv (s : Seg) (D size : Nat) (ok : Bool) (h : SInv s) : SInv (segAlloc s D size ok).1 := by
  unfold segAlloc
  split
  · exact h
  · dsimp only
    split <;> exact commit_inv s D size ok h

/-- **every fault sequence**: whatever the OS answers to each request (`osOk`, `needsRecommit`, `osGone` are arbitrary in every step,
    constrained only by `honest`), the commit mask never records a unit that is not accessible -/
theorem seg_reachable_inv (ops : List SOp) (s : Seg) (hon : ∀ op ∈ ops, op.honest) (h : SInv s) : SInv (ops.foldl sStep s) :=
  List.foldlRecOn ops sStep h fun s h op hop => by
    cases op with
    | commit D size ok => exact commit_inv s D size ok h
    | purge D size nr og => exact purge_inv s D size nr og (hon _ hop) h
    | alloc D size ok => exact alloc_inv s D size ok h
    | sched D size =>
      show SInv (segSchedule s D size)
      unfold segSchedule
      exact iteInduction (motive := SInv) (fun _ => h) (fun _ => h)

theorem commit_accessible (s : Seg) (D size : Nat) (ok : Bool) (h : SInv s)
    (hne : ¬ ((rangeOf s 0 D size).2.2.2 = 0 ∨ (rangeOf s 0 D size).2.1 = 0)) (hres : (segCommit s D size ok).2 = true) (k : Nat)
    (h1 : (rangeOf s 0 D size).2.2.1 ≤ k) (h2 : k < (rangeOf s 0 D size).2.2.1 + (rangeOf s 0 D size).2.2.2) :
    (segCommit s D size ok).1.os k = true :=
  (segCommit_spec s D size ok).accessible hres (fun hw => allSet_iff.1 (hw.resolve_left hne) k h1 h2)
    (mRange_iff.2 ⟨h1, h2⟩) (h k)

/-- the link between the two levels: a segment whose commit mask is full (the only case in which it reports `committed_size == size`
    when it is freed) is, by the segment invariant, accessible in every unit — the obligation `allCommitted → accessible` of `AOp.ok` -/
theorem full_mask_means_accessible (s : Seg) (h : SInv s) (hf : isFull s.commit = true) : ∀ k, k < 512 → s.os k = true :=
  fun k hk => h k (allSet_iff.1 hf k (Nat.zero_le _) (by omega))

/-- **memory handed out is accessible**: when mi_segment_span_allocate hands out the range [D, D+size) of a normal segment — after any
    history and with any answer of the OS to this commit request — every byte of it lies in an accessible commit unit -/
theorem alloc_accessible (s : Seg) (D size : Nat) (ok : Bool) (h : SInv s)
    (hseg : s.base + 33554432 < 2^64) (hin : D + size ≤ s.slices * 65536) (hs : s.slices ≤ 512) (hinfo : s.info ≤ 512) (hsz : 0 < size)
    (hres : (segAlloc s D size ok).2 = some (D, size)) :
    ∀ x, D ≤ x → x < D + size → (segAlloc s D size ok).1.os (x / 65536) = true := by
  have _ := hinfo  -- (not needed)
  intro x hx1 hx2
  have hxs : x / 65536 < 512 := by omega
  revert hres
  unfold segAlloc
  by_cases hf : (isFull s.commit && isEmpty s.purge) = true
  · -- nothing to commit: the mask is full
    rw [if_pos hf]
    exact fun _ => full_mask_means_accessible s h (Bool.and_eq_true_iff.1 hf).1 _ hxs
  · rw [if_neg hf]
    by_cases hok : (segCommit s D size ok).2 = true
    · rw [if_pos hok]
      -- the (liberal) request is the unit range `[lo, hi)`, which contains the unit of `x`
      obtain ⟨hl1, hl2⟩ := C13L.liberal_covers D size s.slices x hin hx1 hx2
      have hr : rangeOf s 0 D size = (s.base + C13L.lo 0 D * 65536, (C13L.hi 0 D size s.slices - C13L.lo 0 D) * 65536,
          (C13L.lo 0 D, C13L.hi 0 D size s.slices - C13L.lo 0 D)) := by
        unfold rangeOf
        rw [C13L.commit_mask_closed (0, 0) (fun i n => (i, n)) (0, 0) s.info s.slices s.base D size 0 0 0 0 hseg (by omega) hs hsz (by omega),
          if_pos (by omega)]
      have hacc := commit_accessible s D size ok h
      rw [hr] at hacc
      exact fun _ => hacc (by dsimp only; omega) hok _ hl1 (by dsimp only; omega)
    · rw [if_neg hok]
      exact fun hno => nomatch hno

-- non-vacuity: a lazily committed segment (info slice committed); a refused commit of the second slice leaves it unrecorded and the span is not handed out;
-- the retry with the OS granting succeeds and the unit is recorded and accessible
def seg0 : Seg := { commit := fun k => k == 0, purge := fun _ => false, os := fun k => k == 0, info := 1, slices := 512, base := 0x20000000000 }
example : SInv seg0 := by intro k hk; exact hk
example : (segAlloc seg0 65536 65536 false).2 = none ∧ (segAlloc seg0 65536 65536 false).1.commit 1 = false := by decide +kernel
example : (segAlloc seg0 65536 65536 true).2 = some (65536, 65536) ∧ (segAlloc seg0 65536 65536 true).1.commit 1 = true ∧ (segAlloc seg0 65536 65536 true).1.os 1 = true := by decide +kernel

/-! ### the same statements over the functions *generated from src/segment.c* (Gen/Commit.lean, extract/masktr.py): a change of the
    source changes these definitions and the proofs are re-checked against what the code says now -/
section
open GenC C07G

/-- generated `mi_segment_commit`: the commit mask never records a unit the OS did not grant, whatever the OS answers -/
theorem generated_commit_keeps_invariant (σ : SegSt) (D size : Nat) (ok : Bool) (now d : Int) (g : Geo σ D size) (h : SInvG σ) :
    SInvG (GenC.mi_segment_commit σ ((σ.base + D : Nat) : Int) (size : Int) ok now d).1 := gen_commit_inv g h

/-- generated `mi_segment_commit`: a refused commit is reported (`false`) and leaves commit mask and accessibility as they were -/
theorem generated_commit_refused (σ : SegSt) (p size : Int) (now d : Int) :
    ((GenC.mi_segment_commit σ p size false now d).2 = false → (GenC.mi_segment_commit σ p size false now d).1 = σ) ∧
    (GenC.mi_segment_commit σ p size false now d).1.commit = σ.commit ∧ (GenC.mi_segment_commit σ p size false now d).1.os = σ.os :=
  (commit_spec σ p size false now d).of_refused

theorem generated_purge_keeps_invariant (σ : SegSt) (D size : Nat) (nr og : Bool) (hon : og = true → nr = true) (g : Geo σ D size) (h : SInvG σ) :
    SInvG (GenC.mi_segment_purge σ ((σ.base + D : Nat) : Int) (size : Int) nr og).1 :=
  (purge_spec σ _ _ nr og).inv (commitMask_unitsOf σ 1 D size g) hon h

/-- generated `mi_segment_schedule_purge` keeps the invariant, for any `mi_segment_try_purge` that keeps it -/
theorem generated_schedule_purge_keeps_invariant (σ : SegSt) (D size : Nat) (delay : Int) (nr og : Bool) (now ext : Int) (tp : SegSt → SegSt)
    (hon : og = true → nr = true) (htp : ∀ τ, SInvG τ → SInvG (tp τ)) (g : Geo σ D size) (h : SInvG σ) :
    SInvG (GenC.mi_segment_schedule_purge σ ((σ.base + D : Nat) : Int) (size : Int) delay nr og now ext tp) := by
  unfold mi_segment_schedule_purge
  refine iteInduction (fun _ => h) fun _ => ?_
  refine iteInduction (fun _ => generated_purge_keeps_invariant σ D size nr og hon g h) fun _ => ?_
  refine iteInduction (fun _ => h) fun _ => ?_
  -- registering the range changes the purge mask and the expiry only
  have h1 : SInvG { σ with purge := mUnion σ.purge (mInter σ.commit (commitMask σ 1 ((σ.base + D : Nat) : Int) (size : Int)).2.2) } := h
  refine iteInduction (fun _ => h1) fun _ => ?_
  refine iteInduction (fun _ => ?_) (fun _ => h1)
  exact iteInduction (fun _ => htp _ h1) (fun _ => h1)

/-- generated `mi_segment_ensure_committed` (what mi_segment_span_allocate calls before it hands out a page): if it answers `true`, every
    byte of the block range lies in an accessible commit unit — after any history and with any answer of the OS -/
theorem generated_ensure_committed_accessible (σ : SegSt) (D size : Nat) (ok : Bool) (now d : Int) (h : SInvG σ)
    (hseg : σ.base + 33554432 < 2^64) (hin : D + size ≤ σ.slices * 65536) (hs : σ.slices ≤ 512) (hinfo : σ.info ≤ 512) (hsz : 0 < size)
    (hres : (GenC.mi_segment_ensure_committed σ ((σ.base + D : Nat) : Int) (size : Int) ok now d).2 = true) :
    ∀ x, D ≤ x → x < D + size → (GenC.mi_segment_ensure_committed σ ((σ.base + D : Nat) : Int) (size : Int) ok now d).1.os (x / 65536) = true := by
  have _ := hinfo  -- (not needed)
  intro x hx1 hx2
  have hxs : x / 65536 < 512 := by omega
  have g : Geo σ D size := ⟨hseg, hs, by omega, hsz, by omega⟩
  -- the (liberal) request is not empty and the unit of `x` is in its mask
  obtain ⟨hm, hfs⟩ : (commitMask σ 0 ((σ.base + D : Nat) : Int) (size : Int)).2.2 (x / 65536) = true ∧
      (commitMask σ 0 ((σ.base + D : Nat) : Int) (size : Int)).2.1 ≠ 0 := by
    rw [commitMask_eq σ 0 D size g]
    have := C13L.liberal_covers D size σ.slices x hin hx1 hx2
    exact ⟨mRange_iff.2 (by omega), by show ((_ : Nat) : Int) ≠ 0; omega⟩
  revert hres
  unfold mi_segment_ensure_committed
  refine iteInduction (motive := fun τ : SegSt × Bool => τ.2 = true → τ.1.os (x / 65536) = true) (fun hf _ => ?_) fun _ hres => ?_
  · exact h _ (mFull_iff.1 (Bool.and_eq_true_iff.1 hf).1 _ hxs)
  · refine (commit_spec σ _ _ ok now d).accessible hres (fun hw => ?_) (by rw [commitMask_unitsOf σ 0 D size g]; exact hm) (h _)
    rcases hw with hall | hemp | hfs'
    · exact mAllSet_iff.1 hall _ hxs hm
    · rw [mEmpty_false hxs hm] at hemp; cases hemp
    · exact absurd hfs' hfs

end

/-! ### arena -/
theorem aAlloc_spec (a : Arena) (i n : Nat) (commit ok : Bool) :
    (aAlloc a i n commit ok).1.inuse = setR a.inuse i n ∧
    ((allSet a.committed i n = true ∧ (aAlloc a i n commit ok).1.committed = a.committed ∧ (aAlloc a i n commit ok).1.os = a.os) ∨
     (commit = true ∧ ok = true ∧ (aAlloc a i n commit ok).1.committed = setR a.committed i n ∧ (aAlloc a i n commit ok).1.os = setR a.os i n) ∨
     ((aAlloc a i n commit ok).2 = false ∧ (aAlloc a i n commit ok).1.committed = clrR a.committed i n ∧ (aAlloc a i n commit ok).1.os = a.os)) := by
  unfold aAlloc
  dsimp only
  by_cases hall : allSet a.committed i n = true
  · -- recorded as committed: handed out as it is, whether a commit was asked for or not
    rw [if_pos hall, if_pos hall, ite_self]
    exact ⟨rfl, Or.inl ⟨hall, rfl, rfl⟩⟩
  rw [if_neg hall, if_neg hall]
  cases commit
  · exact ⟨rfl, Or.inr (Or.inr ⟨rfl, rfl, rfl⟩)⟩
  cases ok
  · exact ⟨rfl, Or.inr (Or.inr ⟨rfl, rfl, rfl⟩)⟩
  · exact ⟨rfl, Or.inr (Or.inl ⟨rfl, rfl, rfl, rfl⟩)⟩

theorem aAlloc_inv (a : Arena) (i n : Nat) (commit ok : Bool) (h : AInv a) : AInv (aAlloc a i n commit ok).1 := by
  obtain ⟨hu, hcase⟩ := aAlloc_spec a i n commit ok
  intro k
  rw [hu, setR_eq]
  -- committed bits change only inside the claimed range, accessibility only grows
  rcases hcase with ⟨_, hc, ho⟩ | ⟨_, _, hc, ho⟩ | ⟨_, hc, ho⟩ <;> rw [hc, ho]
  · exact claim_pt (h k) (fun _ => rfl) id
  · rw [setR_eq, setR_eq]
    exact claim_pt (h k) (fun hr => by unfold GenC.mUnion; rw [hr, Bool.or_false]) (fun hk => mUnion_iff.2 (Or.inl hk))
  · rw [clrR_eq]
    exact claim_pt (h k) (clear_out true) id

/-- a range handed out as `initially_committed` is accessible — with any answer of the OS to the commit request -/
theorem aAlloc_accessible (a : Arena) (i n : Nat) (commit ok : Bool) (h : AInv a) (hfree : ∀ k, i ≤ k → k < i + n → a.inuse k = false)
    (hres : (aAlloc a i n commit ok).2 = true) : ∀ k, i ≤ k → k < i + n → (aAlloc a i n commit ok).1.os k = true := by
  intro k h1 h2
  rcases (aAlloc_spec a i n commit ok).2 with ⟨hall, _, ho⟩ | ⟨_, _, _, ho⟩ | ⟨hf, _⟩
  · rw [ho]; exact h k (hfree k h1 h2) (allSet_iff.1 hall k h1 h2)
  · rw [ho]; exact setR_iff.2 (.inr ⟨h1, h2⟩)
  · rw [hres] at hf; cases hf

/-- a refused arena commit is recorded: the range is not handed out as committed -/
theorem aAlloc_refused (a : Arena) (i n : Nat) (hnot : allSet a.committed i n = false) : (aAlloc a i n true false).2 = false := by
  unfold aAlloc
  simp [hnot]

theorem aAlloc_refused_unrecorded (a : Arena) (i n : Nat) (hnot : allSet a.committed i n = false) :
    ∀ k, i ≤ k → k < i + n → (aAlloc a i n true false).1.committed k = false := by
  intro k h1 h2
  unfold aAlloc
  simp [hnot, clrR, h1, h2]

theorem aPurge_inv (a : Arena) (i n : Nat) (nr og : Bool) (hon : og = true → nr = true) (h : AInv a) : AInv (aPurge a i n nr og) :=
  fun k hk => clrR_pt hon (h k hk)

/-- freeing keeps the invariant provided the caller passes `allCommitted` only for a range that really is accessible (for a segment:
    its commit mask is full, which by `seg_reachable_inv` implies accessibility); otherwise the range is recorded as uncommitted -/
theorem aFree_inv (a : Arena) (i n : Nat) (allc : Bool) (mode : Nat) (nr og : Bool) (hon : og = true → nr = true) (h : AInv a)
    (hall : allc = true → ∀ k, i ≤ k → k < i + n → a.os k = true) : AInv (aFree a i n allc mode nr og) := by
  -- the invariant relative to the range that is about to be released: free blocks and the blocks of the range
  let R (b : Arena) : Prop := ∀ k, (b.inuse k = false ∨ GenC.mRange i n k = true) → b.committed k = true → b.os k = true
  -- after the `all_committed` test the committed bits are sound for the range itself as well, in use or not
  have h1 : R (aMark a i n allc) := by
    unfold aMark
    refine iteInduction (motive := R) (fun ha k hk => ?_) (fun _ k hk => ?_)
    · exact hk.elim (h k) fun hr _ => hall ha k (mRange_iff.1 hr).1 (mRange_iff.1 hr).2
    · show clrR a.committed i n k = true → _
      rw [clrR_eq]
      exact mark_pt (h k) hk
  -- scheduling / purging keeps that
  have h2 : R (aSched (aMark a i n allc) i n mode nr og) := by
    unfold aSched
    refine iteInduction (fun _ => h1) fun _ => iteInduction (fun _ => ?_) (fun _ => h1)
    exact fun k hk => clrR_pt hon (h1 k hk)
  intro k
  show clrR (aSched (aMark a i n allc) i n mode nr og).inuse i n k = false → _
  rw [clrR_eq]
  exact fun hk => h2 k (release_pt hk)

/-- **every fault sequence, arena level**: over every list of allocations, frees and purges with arbitrary answers of the OS, free
    blocks recorded as committed stay accessible -/
theorem arena_reachable_inv (ops : List AOp) (a : Arena) (hok : AOk a ops) (h : AInv a) : AInv (ops.foldl aStep a) := by
  induction ops generalizing a with
  | nil => exact h
  | cons op ops ih =>
    simp only [List.foldl_cons]
    obtain ⟨h1, h2⟩ := hok
    apply ih _ h2
    cases op with
    | alloc i n c ok => exact aAlloc_inv a i n c ok h
    | free i n allc mode nr og => exact aFree_inv a i n allc mode nr og h1.1 h h1.2
    | purge i n nr og => exact aPurge_inv a i n nr og h1 h

/-! ### the arena statements over the functions *generated from src/arena.c* (Gen/ArenaGen.lean, extract/arenatr.py) -/
section
open GenR C07A

/-- generated `mi_arena_try_alloc_at`: free blocks recorded as committed stay accessible, whatever the claim and the OS answer -/
theorem generated_arena_alloc_keeps_invariant (σ : ArSt) (n : Int) (commit claimed : Bool) (idx : Int) (ok cz : Bool) (h : AInvG σ) :
    AInvG (GenR.mi_arena_try_alloc_at σ n commit claimed idx ok cz).1 := by
  cases claimed
  · exact h
  · obtain ⟨τ, m, he, hu, hcase⟩ := alloc_spec σ n commit idx ok cz
    rw [he]
    intro k
    rw [hu, mSet_eq]
    exact claim_pt (h k) hcase.committed_off hcase.os_mono

/-- generated `mi_arena_try_alloc_at`: a range handed out with `initially_committed` is accessible in every block -/
theorem generated_arena_alloc_accessible (σ : ArSt) (n : Int) (commit : Bool) (idx : Int) (ok cz : Bool) (h : AInvG σ)
    (hi : 0 ≤ idx) (hn : 0 ≤ n) (hc : σ.hasCommitted = true) (hfree : ∀ k, inRange idx n k = true → σ.inuse k = false)
    (b : Int) (m : MemId) (hres : (GenR.mi_arena_try_alloc_at σ n commit true idx ok cz).2 = some (b, m)) (hm : m.initially_committed = true) :
    ∀ k, inRange idx n k = true → (GenR.mi_arena_try_alloc_at σ n commit true idx ok cz).1.os k = true := by
  have _ := hn  -- (not needed: a negative count selects no block)
  intro k hk
  have hold : σ.committed k = true → σ.os k = true := h k (hfree k hk)
  match alloc_case hres with
  | .untracked (htrack := hno) .. => rw [hc] at hno; cases hno
  | .committed (hany := hany) (ho := ho) .. => rw [ho]; exact hold (bmAnyZero_false hi hany k hk)
  | .granted (ho := ho) .. => rw [ho]; exact mSet_in hk
  | .refused (hic := hic) .. => rw [hm] at hic; cases hic
  | .notAsked (ho := ho) (hic := hic) .. => rw [ho]; exact hold ((bmAllSet_iff hi).1 (hic ▸ hm) k hk)

/-- generated `mi_arena_try_alloc_at`: a refused commit is recorded — the memid says "not committed" and no block of the range stays
    recorded as committed (the repair 31fc4dc) -/
theorem generated_arena_refused_commit_recorded (σ : ArSt) (n : Int) (idx : Int) (cz : Bool) (hc : σ.hasCommitted = true)
    (hany : bmAnyZero σ.committed idx n = true) (b : Int) (m : MemId)
    (hres : (GenR.mi_arena_try_alloc_at σ n true true idx false cz).2 = some (b, m)) :
    m.initially_committed = false ∧ ∀ k, inRange idx n k = true → (GenR.mi_arena_try_alloc_at σ n true true idx false cz).1.committed k = false := by
  match alloc_case hres with
  | .untracked (htrack := hno) .. => rw [hc] at hno; cases hno
  | .committed (hany := ha) .. => rw [hany] at ha; cases ha
  | .granted (hok := hok) .. => cases hok
  | .refused (hc := hcm) (hic := hic) .. => exact ⟨hic, fun k hk => by rw [hcm]; exact mClr_in hk⟩
  | .notAsked (hcommit := hcm) .. => cases hcm

/-- generated `mi_arena_purge` and `mi_arena_schedule_purge` keep the invariant (honest OS layer) -/
theorem generated_arena_purge_keeps_invariant (σ : ArSt) (idx n : Int) (nr1 g1 nr2 g2 : Bool) (hon1 : g1 = true → nr1 = true)
    (hon2 : g2 = true → nr2 = true) (h : AInvG σ) : AInvG (GenR.mi_arena_purge σ idx n nr1 g1 nr2 g2) :=
  AInvG_of _ (gen_purge_invR hon1 hon2 (AInvR_of σ h))

/-- … `mi_arena_schedule_purge` either purges at once (delay 0 / preloading) or only registers the range and the expiry times -/
theorem generated_arena_schedule_purge_keeps_invariant (σ : ArSt) (idx n delay : Int) (pre nr1 g1 nr2 g2 : Bool) (now : Int)
    (hon1 : g1 = true → nr1 = true) (hon2 : g2 = true → nr2 = true) (h : AInvG σ) :
    AInvG (GenR.mi_arena_schedule_purge σ idx n delay pre nr1 g1 nr2 g2 now) :=
  AInvG_of _ (gen_schedule_invR hon1 hon2 (AInvR_of σ h))

/-- generated core of `_mi_arena_free` (commit-state test, schedule-purge, release of the in-use bits): keeps the invariant provided the
    caller reports `all_committed` only for an accessible range; a partly committed range is recorded as uncommitted before it is released -/
theorem generated_arena_free_keeps_invariant (σ : ArSt) (allc : Bool) (idx n delay : Int) (pre nr1 g1 nr2 g2 : Bool) (now : Int)
    (hon1 : g1 = true → nr1 = true) (hon2 : g2 = true → nr2 = true) (hc : σ.hasCommitted = true) (hp : σ.pinned = false)
    (h : AInvG σ) (hall : allc = true → ∀ k, inRange idx n k = true → σ.os k = true) :
    AInvG (GenR._mi_arena_free_core σ allc idx n delay pre nr1 g1 nr2 g2 now) := by
  unfold _mi_arena_free_core
  have hcond : (σ.pinned || !σ.hasCommitted) = false := by rw [hp, hc]; rfl
  simp only [hcond, Bool.false_eq_true, if_false]
  -- the state after the `all_committed` test is sound on the range as well
  have h1 : AInvR (inRange idx n) (if (!allc) = true then { σ with committed := mClr σ.committed idx n } else σ) := by
    refine iteInduction (motive := AInvR (inRange idx n)) (fun _ k hk => ?_) (fun ha k hk => ?_)
    · show mClr σ.committed idx n k = true → _
      rw [mClr_eq]
      exact mark_pt (h k) hk
    · exact hk.elim (h k) fun hr _ => hall (by simpa using ha) k hr
  have h2 : AInvR (inRange idx n) (mi_arena_schedule_purge _ idx n delay pre nr1 g1 nr2 g2 now) := gen_schedule_invR hon1 hon2 h1
  generalize mi_arena_schedule_purge _ idx n delay pre nr1 g1 nr2 g2 now = τ at h2
  -- releasing the in-use bits of the range turns the relative invariant into the plain one
  have h3 : AInvG { τ with inuse := mClr τ.inuse idx n } := by
    intro k
    show mClr τ.inuse idx n k = false → _
    rw [mClr_eq]
    exact fun hk => h2 k (release_pt hk)
  exact iteInduction (fun _ => h3) (fun _ => h3)

end

/-- **the commit mask built by the generated `mi_commit_mask_create` is the bit range** (src/segment.c, a `while` loop over the 64-bit
    fields regenerated as `whileN`; `Gen/CommitPrelude.lean` interprets the mask a commit / purge request works on as `mRange i n`, and
    this is what justifies it): for `0 < bitcount < 512`, `bitidx + bitcount ≤ 512` the function empties the mask and then stores field
    values whose bits — a later store wins, an untouched field stays empty — are exactly the units `[bitidx, bitidx + bitcount)` -/
theorem generated_commit_mask_create_is_the_bit_range {α : Type} (full empty cm_in : α) (bitidx bitcount cm : Nat)
    (h1 : 0 < bitcount) (h2 : bitcount < 512) (h3 : bitidx + bitcount ≤ 512) (hcm : cm + 64 < 2^64) :
    ∃ l : List (Nat × Nat),
      GenL.mi_commit_mask_create full empty cm_in bitidx bitcount cm = (empty, l.map (MaskL.toStore cm)) ∧
      ∀ k, MaskL.bitAfter l k = GenC.mRange bitidx bitcount k := by
  refine ⟨_, MaskL.create_stores full empty cm_in bitidx bitcount cm h1 h2 h3 hcm, fun k => ?_⟩
  rw [MaskL.bitAfter_stores k bitcount _ _ bitcount (Nat.le_refl _) (Nat.mod_lt _ (by decide)), Nat.mul_comm, Nat.div_add_mod]
  rfl

/-- the two remaining cases: all 512 units → the full mask, no unit → the empty mask (no store at all) -/
theorem generated_commit_mask_create_full_and_empty {α : Type} (full empty cm_in : α) (bitidx cm : Nat) :
    GenL.mi_commit_mask_create full empty cm_in bitidx 512 cm = (full, []) ∧
    GenL.mi_commit_mask_create full empty cm_in bitidx 0 cm = (empty, []) :=
  by unfold GenL.mi_commit_mask_create; simp

-- non-vacuity: 70 units from unit 60 on: field 0 gets its four top bits, field 1 all 64 bits, field 2 its two low bits
example : GenL.mi_commit_mask_create (1 : Nat) 0 2 60 70 4096 =
    (0, [("store64", [4096, 17293822569102704640]), ("store64", [4104, 18446744073709551615]), ("store64", [4112, 3])]) := by decide

/-- **the regenerated `_mi_commit_mask_committed_size` reports the whole size exactly for a full mask** (src/segment.c: a `for` loop over
    the eight fields with a bit-counting `for` loop inside, regenerated as nested `whileN`; `ld64` is the memory the mask is read from).
    `mi_segment_os_free` passes this value to `_mi_arena_free`, which treats the memory as completely committed — hence accessible —
    only when it equals the size (`full_mask_means_accessible` above is the model-side half of that argument) -/
theorem generated_committed_size_is_total_iff_mask_full (ld64 : Nat → Nat) (cm total : Nat)
    (hw : ∀ i, i < 8 → ld64 (CSizeL.fieldAddr cm i) < 2^64) (hdiv : total % 512 = 0) (hpos : 0 < total) (hlt : total < 2^64) :
    GenL._mi_commit_mask_committed_size ld64 cm total = total ↔ ∀ i, i < 8 → ld64 (CSizeL.fieldAddr cm i) = 18446744073709551615 := by
  open CSizeL in
  rw [committed_size_eq ld64 cm total hw]
  have hS := sumFrom_le (contrib ld64 cm) (contrib_le ld64 cm) 8 0
  have hfull := sumFrom_full_iff (contrib ld64 cm) (contrib_le ld64 cm) 8 0
  generalize sumFrom (contrib ld64 cm) 0 8 = S at hS hfull ⊢
  -- `total` is `u` units of 512, and `u * S` does not wrap
  obtain ⟨u, rfl, hu⟩ : ∃ u, total = u * 512 ∧ 0 < u := ⟨total / 512, by omega, by omega⟩
  have hle : u * S ≤ u * 512 := Nat.mul_le_mul_left u hS
  rw [Nat.mul_div_cancel _ (by decide : 0 < 512), Nat.mod_eq_of_lt (Nat.lt_of_le_of_lt hle hlt)]
  -- the whole size is reported iff the sum is 512 iff every contribution is 64 iff every field is full
  rw [show u * S = u * 512 ↔ S = 64 * 8 from ⟨fun h => Nat.eq_of_mul_eq_mul_left hu h, fun h => by rw [h]⟩, hfull]
  exact ⟨fun h i hi => (contrib_full_iff ld64 cm i (hw i hi)).1 (h i (Nat.zero_le _) (by omega)),
    fun h j _ hj => (contrib_full_iff ld64 cm j (hw j (by omega))).2 (h j (by omega))⟩

/-- in general it is `(total / 512) ·` the number of set bits (a full field counted as 64 without looking at its bits) -/
theorem generated_committed_size_value (ld64 : Nat → Nat) (cm total : Nat) (hw : ∀ i, i < 8 → ld64 (CSizeL.fieldAddr cm i) < 2^64) :
    GenL._mi_commit_mask_committed_size ld64 cm total = ((total / 512) * CSizeL.sumFrom (CSizeL.contrib ld64 cm) 0 8) % 2^64 :=
  CSizeL.committed_size_eq ld64 cm total hw

-- non-vacuity of `generated_committed_size_is_total_iff_mask_full`: a full mask reports the 32 MiB, one cleared bit 64 KiB less
example : GenL._mi_commit_mask_committed_size (fun _ => 18446744073709551615) 4096 33554432 = 33554432 := by decide
example : GenL._mi_commit_mask_committed_size (fun a => if a = 4096 then 18446744073709551614 else 18446744073709551615) 4096 33554432 = 33488896 := by
  decide +kernel

end C07
