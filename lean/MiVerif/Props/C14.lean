import MiVerif.Model.BitmapCExec
import MiVerif.Gen.Arith
import MiVerif.Gen.Loops
import MiVerif.Lemmas.ArenaBitmap
import MiVerif.Lemmas.Align
/-! C14 — concurrent arena claims are disjoint and leave nothing reserved behind.
   Model: MiVerif/Model/BitmapC.lean — abstract bits plus ghost ownership runs, one transition per atomic
   operation of the claim / roll-back / free code in src/bitmap.c (CAS of the next chunk, switch to roll-back, plain store 0 of a whole
   field during roll-back, CAS clear of the initial field, finish, free chunk by chunk), any number of threads.  Tie: the real functions
   are checked step by step against the sequential specification MiVerif/Model/BitSeq.lean (every successful claim sets exactly a
   previously clear run, every failed claim leaves the bitmap unchanged, every unclaim clears exactly its run), which is the sequential
   projection of the model (theorems `seq_claim` / `seq_free` below); for concurrent executions the log of every atomic operation on the
   arena's in-use bitmap, recorded from the hooked allocator under the deterministic scheduler, is replayed through the executable
   validator `BitmapC.exec` (proved sound: theorem `validated_traces_satisfy_invariant`), and the end states are checked (disjointness,
   containment, nothing left claimed, whole arena allocatable again). -/

namespace C14
open BitmapC

/-- reflexive-transitive closure of the atomic steps of all threads -/
inductive Steps : St → St → Prop where
  | refl (s) : Steps s s
  | tail {s t u} : Steps s t → Step t u → Steps s u

/-- the ownership invariant (every bit is owned exactly as often as it is set) holds along every interleaving -/
theorem inv_reachable {s s' : St} (h : Inv s) (hs : Steps s s') : Inv s' := by
  induction hs with
  | refl => exact h
  | tail _ hstep ih => exact inv_step ih hstep

/-- **disjoint claims**: in every reachable state no bit (arena block) belongs to two claims, completed or in flight -/
theorem claims_disjoint_reachable {s s' : St} (h : Inv s) (hs : Steps s s') (i : Nat) : cnt s'.owns i ≤ 1 :=
  claims_disjoint (inv_reachable h hs) i

/-- **nothing left reserved**: whenever every claim has been released and no operation is in flight, every bit is clear again
    (a failed or rolled-back claim leaves nothing behind) -/
theorem nothing_left_reserved {s s' : St} (h : Inv s) (hs : Steps s s') (hn : s'.owns = []) (i : Nat) : s'.bits i = false :=
  all_free_again (inv_reachable h hs) hn i

/-- every log accepted by the executable validator is an execution of the model: the invariant holds in every state along it -/
theorem validated_traces_satisfy_invariant {s s' : St} {ls : List Lbl} (hi : Inv s) (h : run s ls = some s') : Inv s' := run_inv hi h

theorem empty_inv : Inv { bits := fun _ => false, owns := [] } := ⟨fun _ => rfl, nofun⟩

/-- the sequential claim of a clear run `[a, b)` is an execution of the model: start, one successful CAS chunk, finish -/
theorem seq_claim (s : St) (a b : Nat) (hab : a < b) (hfree : ∀ i, a ≤ i → i < b → s.bits i = false) :
    Steps s { bits := setRange s.bits a b true, owns := ⟨a, b, 0⟩ :: s.owns } := by
  have s1 : Step s { s with owns := ⟨a, a, 1⟩ :: s.owns } := Step.start s a
  have s2 := Step.claimTop { s with owns := ⟨a, a, 1⟩ :: s.owns } [] s.owns ⟨a, a, 1⟩ b rfl rfl hab hfree
  have s3 := Step.finish { bits := setRange s.bits a b true, owns := [] ++ ⟨a, b, 1⟩ :: s.owns } [] s.owns ⟨a, b, 1⟩ rfl rfl
  exact Steps.tail (Steps.tail (Steps.tail (Steps.refl s) s1) s2) s3

/-- the sequential release of a completed claim is an execution of the model: freeStart, one chunk -/
theorem seq_free (s : St) (pre post : List Own) (a b : Nat) (hab : a < b) (h : s.owns = pre ++ ⟨a, b, 0⟩ :: post) :
    Steps s { bits := setRange s.bits a b false, owns := pre ++ post } := by
  have s1 := Step.freeStart s pre post ⟨a, b, 0⟩ h rfl
  have s2 := Step.freeChunk { s with owns := pre ++ ⟨a, b, 3⟩ :: post } pre post ⟨a, b, 3⟩ b rfl rfl hab (Nat.le_refl _)
  simp only [if_true, List.append_nil] at s2
  exact Steps.tail (Steps.tail (Steps.refl s) s1) s2

/-- address corollary: distinct block indices are distinct 32 MiB ranges inside the arena -/
theorem block_ranges_disjoint (start i j : Nat) (hij : i < j) : start + (i + 1) * 33554432 ≤ start + j * 33554432 :=
  Nat.add_le_add_left (Nat.mul_le_mul_right _ hij) _

-- non-vacuity: two claims in the empty bitmap are disjoint
example : Steps { bits := fun _ => false, owns := [] } { bits := setRange (fun _ => false) 3 9 true, owns := [⟨3, 9, 0⟩] } :=
  seq_claim _ 3 9 (by decide) (fun _ _ _ => rfl)

/-- **`mi_bitmap_mask_` as regenerated from the source**: the mask a claim of `count` bits at `bitidx` compares-and-swaps into a
    bitmap field has exactly the bits `[bitidx, bitidx + count)` — the range the claim models (`BitSeq.claimOk`, `BitmapC` owner runs)
    speak about (every non-empty claim that fits in a field) -/
theorem generated_bitmap_mask_is_the_bit_range (count bitidx j : Nat) (hc : 1 ≤ count) (hfit : bitidx + count ≤ 64) (hj : j < 64) :
    (Gen.mi_bitmap_mask_ count bitidx).testBit j = decide (bitidx ≤ j ∧ j < bitidx + count) := by
  have _ := hc; have _ := hj  -- (not needed)
  rw [BitmapMaskL.mask_eq count bitidx hfit, Word.testBit_ones_shl]

/-- the claim test of the source, `(map & mask) == 0`, for two masks: claims of disjoint bit ranges never conflict and claims of
    overlapping ranges always do — a field value that contains an earlier claim's mask refuses every later overlapping claim -/
theorem generated_bitmap_masks_conflict_iff_ranges_overlap (c1 i1 c2 i2 : Nat) (h1 : 1 ≤ c1) (f1 : i1 + c1 ≤ 64) (h2 : 1 ≤ c2) (f2 : i2 + c2 ≤ 64) :
    Gen.mi_bitmap_mask_ c1 i1 &&& Gen.mi_bitmap_mask_ c2 i2 = 0 ↔ (i1 + c1 ≤ i2 ∨ i2 + c2 ≤ i1) := by
  rw [BitmapMaskL.mask_eq c1 i1 f1, BitmapMaskL.mask_eq c2 i2 f2]
  exact Word.ones_shl_and_eq_zero_iff c1 i1 c2 i2 h1 h2

/-- bitmap indices as regenerated: `mi_bitmap_index_create field bit` is decomposed again by `mi_bitmap_index_field` /
    `mi_bitmap_index_bit_in_field` (bit < 64, no wrap-around), so the field a claim is released in is the field it was made in -/
theorem generated_bitmap_index_roundtrip (field bit : Nat) (hb : bit < 64) (hf : field * 64 + bit < 2^64) :
    Gen.mi_bitmap_index_field (GenL.mi_bitmap_index_create field bit) = field
    ∧ Gen.mi_bitmap_index_bit_in_field (GenL.mi_bitmap_index_create field bit) = bit := by
  rw [BitmapMaskL.index_create_eq field bit hf]
  constructor
  · rw [Gen.mi_bitmap_index_field, Nat.add_comm, Nat.add_mul_div_right _ _ (by decide), Nat.div_eq_of_lt hb, Nat.zero_add]
  · rw [Gen.mi_bitmap_index_bit_in_field, Nat.mul_add_mod_self_right, Nat.mod_eq_of_lt hb]

-- non-vacuity: 3 bits at bit 5 = 0b11100000; claims [5,8) and [8,10) do not conflict, [5,8) and [7,9) do
example : Gen.mi_bitmap_mask_ 3 5 = 224 := by decide
example : Gen.mi_bitmap_mask_ 3 5 &&& Gen.mi_bitmap_mask_ 2 8 = 0 := by decide
example : Gen.mi_bitmap_mask_ 3 5 &&& Gen.mi_bitmap_mask_ 2 7 ≠ 0 := by decide

/-- **the number of arena blocks claimed for a request, as regenerated** (`mi_block_count_of_size`, `mi_arena_block_size`): the claimed
    blocks cover the requested size and waste less than one 32 MiB block — with `block_ranges_disjoint`, two successful claims are
    disjoint address ranges each large enough for its request (every size up to 2^63) -/
theorem generated_block_count_covers_the_request (size : Nat) (hs : size ≤ 2^63) :
    size ≤ Gen.mi_arena_block_size (Gen.mi_block_count_of_size size)
    ∧ Gen.mi_arena_block_size (Gen.mi_block_count_of_size size) < size + 33554432
    ∧ (0 < size → 0 < Gen.mi_block_count_of_size size) := by
  have hfit : size + 33554432 < 2^64 := by omega
  unfold Gen.mi_arena_block_size Gen.mi_block_count_of_size
  rw [Align.divide_up_eq size 33554432 (by decide) hfit]
  obtain ⟨h1, h2⟩ := Word.roundUp_bounds size (by decide : 0 < 33554432)
  rw [Nat.mod_eq_of_lt (Nat.lt_trans h2 hfit)]
  exact ⟨h1, h2, fun h => Nat.div_pos (by omega) (by decide)⟩

example : Gen.mi_block_count_of_size 73400320 = 3 ∧ Gen.mi_arena_block_size 3 = 100663296 := by decide

end C14
