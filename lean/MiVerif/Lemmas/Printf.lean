import MiVerif.Model.Printf
import MiVerif.Lemmas.Control
/-! in-bounds lemmas for the bounded writer model (MiVerif/Model/Printf.lean) -/
namespace C20L
open PfM

def WInv (w : W) : Prop := w.out.length ≤ w.cap ∧ w.oob = false

/-- `w'` continues `w`.  Every output routine continues its argument, so the three facts travel together -/
structure Ext (w w' : W) : Prop where
  cap : w'.cap = w.cap
  mono : w.out.length ≤ w'.out.length
  inv : WInv w → WInv w'

theorem Ext.refl (w : W) : Ext w w := ⟨rfl, Nat.le_refl _, id⟩
theorem Ext.trans {a b c : W} (h1 : Ext a b) (h2 : Ext b c) : Ext a c :=
  ⟨h2.cap.trans h1.cap, Nat.le_trans h1.mono h2.mono, fun h => h2.inv (h1.inv h)⟩
/-- a rewrite in place (`mi_out_alignright`, the reversal in `mi_out_num`): the characters held change, their number does not -/
theorem Ext.in_place {w w' : W} (hc : w'.cap = w.cap) (hl : w'.out.length = w.out.length) (ho : WInv w → w'.oob = false) : Ext w w' :=
  ⟨hc, Nat.le_of_eq hl.symm, fun h => ⟨hl ▸ hc ▸ h.1, ho h⟩⟩

theorem outc_ext {w : W} {c : Char} : Ext w (outc w c) := by
  unfold outc; split
  · refine ⟨rfl, by simp, fun h => ⟨?_, h.2⟩⟩
    simp only [List.length_append, List.length_singleton]; omega
  · exact .refl w
theorem outc_len (w : W) (c : Char) (h : w.out.length ≤ w.cap) : (outc w c).out.length = min (w.out.length + 1) w.cap := by
  unfold outc; split
  · simp; omega
  · omega

theorem outs_ext {w : W} {s : List Char} : Ext w (outs w s) := by
  unfold outs; induction s generalizing w with
  | nil => exact .refl w
  | cons c s ih => exact outc_ext.trans ih
theorem outs_len (w : W) (s : List Char) (h : w.out.length ≤ w.cap) : (outs w s).out.length = min (w.out.length + s.length) w.cap := by
  unfold outs; induction s generalizing w with
  | nil => simp; omega
  | cons c s ih =>
    simp only [List.foldl_cons, List.length_cons]
    have h1 := outc_len w c h
    rw [ih _ (by rw [(outc_ext (c := c)).cap, h1]; omega), (outc_ext (c := c)).cap, h1]; omega

theorem outFill_len (w : W) (f : Char) (n : Nat) (h : w.out.length ≤ w.cap) : (outFill w f n).out.length = min (w.out.length + n) w.cap := by
  unfold outFill; rw [outs_len w _ h, List.length_replicate]; omega

theorem length_foldl_set {β : Type} (l : List β) (a : List Char) (ix : List Char → β → Nat) (v : List Char → β → Char) :
    (l.foldl (fun a x => a.set (ix a x) (v a x)) a).length = a.length := by
  induction l generalizing a with
  | nil => rfl
  | cons x l ih => rw [List.foldl_cons, ih, List.length_set]

/-- alignment is in bounds when the text it moves was really written (`start + len + extra` ≤ characters held
    unless the guard `start + len + extra ≥ cap` returns first) -/
theorem alignRight_ext {w : W} {f : Char} {s l e : Nat} (hfit : WInv w → s + l + e < w.cap → s + l + e ≤ w.out.length) :
    Ext w (alignRight w f s l e) := by
  unfold alignRight; split
  · exact .refl w
  · split
    · exact .refl w
    · refine .in_place rfl (by simp only [length_foldl_set]) fun h => ?_
      have := hfit h (by omega)
      simp only [h.2, Bool.false_or, decide_eq_false_iff_not]; omega

theorem outPre_ext {w : W} {p : Option Char} : Ext w (outPre w p) := by
  unfold outPre; split
  · exact outc_ext
  · exact .refl w

theorem digits_ext (b fuel x : Nat) (w : W) : Ext w (digits b fuel x w) := by
  induction fuel generalizing x w with
  | zero => exact .refl w
  | succ n ih =>
    unfold digits; split
    · exact .refl w
    · exact outc_ext.trans (ih _ _)

theorem outNum_ext {w : W} {x b : Nat} {p : Option Char} : Ext w (outNum w x b p) := by
  unfold outNum; split
  · exact outPre_ext.trans outc_ext
  · refine ((digits_ext b 70 x w).trans outPre_ext).trans (.in_place rfl ?_ fun h => h.2)
    simp only [List.length_append, List.length_take, List.length_reverse, List.length_drop]; omega

theorem fillAlign_ext {w : W} {start width : Nat} {fill : Char} {ar : Bool} (hs : start ≤ w.out.length) :
    Ext w (fillAlign w start width fill ar) := by
  unfold fillAlign
  dsimp only
  split
  · have hf : Ext w (outFill w fill (width - (w.out.length - start))) := outs_ext
    split
    · -- the fill stops short only at the end of the buffer, and there the guard of `alignRight` returns
      refine hf.trans (alignRight_ext fun hw hlt => ?_)
      have hw1 := hw.1
      have := hf.mono
      rw [hf.cap] at hlt hw1
      rw [outFill_len w _ _ (by omega)]
      omega
    · exact hf
  · exact .refl w

/-- what a conversion hands to `fillAlign`: a continuation of `w`, and a start inside what is written -/
def ConvOk (w : W) (r : Conv) : Prop := Ext w r.w ∧ r.start ≤ r.w.out.length

theorem ConvOk.of_ext {w w' : W} (h : Ext w w') (width : Nat) (fill : Char) (args : List Arg) :
    ConvOk w { w := w', start := w.out.length, width := width, fill := fill, args := args } := ⟨h, h.mono⟩

theorem convert_ok (w : W) (sp : Spec) (args : List Arg) : ConvOk w (convert w sp args) := by
  unfold convert
  refine iteInduction (motive := ConvOk w) (fun _ => ?_) fun _ => ?_                               -- `%s`
  · split
    · exact .of_ext outs_ext ..
    · exact .of_ext (.refl w) ..
    · exact .of_ext (.refl w) ..
  refine iteInduction (motive := ConvOk w) (fun _ => ?_) fun _ => ?_                               -- `%p`, `%x`, `%u`
  · extract_lets x pw wf
    -- `%p` writes `0x` first, and what is aligned starts after it
    have hpw : Ext w pw.1 ∧ pw.2.1 ≤ pw.1.out.length :=
      iteInduction (motive := fun pw : W × Nat × Nat => Ext w pw.1 ∧ pw.2.1 ≤ pw.1.out.length)
        (fun _ => ⟨outs_ext, Nat.le_refl _⟩) (fun _ => ⟨.refl w, Nat.le_refl _⟩)
    exact ⟨hpw.1.trans outNum_ext, Nat.le_trans hpw.2 outNum_ext.mono⟩
  refine iteInduction (motive := ConvOk w) (fun _ => .of_ext outNum_ext ..) fun _ => ?_            -- `%i`, `%d`
  -- any other printable character is written out behind its `%`
  exact iteInduction (motive := ConvOk w) (fun _ => .of_ext (outc_ext.trans outc_ext) ..) fun _ => .of_ext (.refl w) ..

theorem emit_ext (w : W) (sp : Spec) (args : List Arg) : Ext w (emit w sp args).1 :=
  (convert_ok w sp args).1.trans (fillAlign_ext (convert_ok w sp args).2)

theorem go_ext (fuel : Nat) (w : W) (inp : List Char) (args : List Arg) : Ext w (go fuel w inp args) := by
  induction fuel generalizing w inp args with
  | zero => exact .refl w
  | succ n ih =>
    unfold go
    split
    · exact .refl w                                   -- the buffer is full
    · split
      · exact .refl w                                 -- end of the format
      · split
        · split                                       -- an ordinary character, printable or skipped
          · exact outc_ext.trans (ih ..)
          · exact ih ..
        · split
          · exact .refl w                             -- `%` at the very end
          · split
            · exact .refl w                           -- a specification that does not parse
            · exact (emit_ext ..).trans (ih ..)       -- a conversion

end C20L
