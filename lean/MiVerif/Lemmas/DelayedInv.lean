import MiVerif.Model.Delayed
/-! the invariant of the delayed-free protocol is inductive.  Every step permutes the blocks (`step_perm`); the `pushed / ownOk / noDelay`
    conjuncts are statements about one list, `waiting`.  Of the flights the invariant reads three things, each additive over the list:
    the blocks they hold (`held`), how many of them have set the flag to `freeing` (`nFreeing`), the blocks they have pushed (`pushedB`).
    A flight step rewrites one flight `pre ++ x :: post`, and `simp` computes what that does to the three. -/
namespace Delayed

@[simp] theorem held_nil : held [] = [] := rfl
@[simp] theorem held_cons (x : Flight) (l : List Flight) :
    held (x :: l) = (if x.holds then [x.b] else []) ++ held l := by
  unfold held; by_cases h : x.holds <;> simp [h]
@[simp] theorem held_append (l₁ l₂ : List Flight) : held (l₁ ++ l₂) = held l₁ ++ held l₂ := by
  unfold held; simp [List.filter_append]

@[simp] theorem nFreeing_nil : nFreeing [] = 0 := rfl
@[simp] theorem nFreeing_cons (x : Flight) (l : List Flight) :
    nFreeing (x :: l) = (if x.isFreeing then 1 else 0) + nFreeing l := by
  unfold nFreeing; by_cases h : x.isFreeing <;> simp [h] <;> omega
@[simp] theorem nFreeing_append (l₁ l₂ : List Flight) : nFreeing (l₁ ++ l₂) = nFreeing l₁ + nFreeing l₂ := by
  unfold nFreeing; simp [List.filter_append]

def pushedB (fl : List Flight) : List Blk := ((fl.filter (·.isFreeing)).filter fun x => !x.holds).map (·.b)

@[simp] theorem pushedB_cons (x : Flight) (l : List Flight) :
    pushedB (x :: l) = (if x.isFreeing && !x.holds then [x.b] else []) ++ pushedB l := by
  unfold pushedB; by_cases hf : x.isFreeing <;> by_cases hh : x.holds <;> simp [hf, hh]
@[simp] theorem pushedB_append (l₁ l₂ : List Flight) : pushedB (l₁ ++ l₂) = pushedB l₁ ++ pushedB l₂ := by
  unfold pushedB; simp [List.filter_append]

theorem pushedB_subset {fl : List Flight} {W : List Blk} :
    pushedB fl ⊆ W ↔ ∀ x ∈ fl, x.isFreeing = true → x.holds = false → x.b ∈ W := by
  rw [pushedB, List.subset_def]
  simp only [List.forall_mem_map, List.forall_mem_filter, Bool.not_eq_true']

theorem pushedB_eq_nil {fl : List Flight} (h0 : nFreeing fl = 0) : pushedB fl = [] := by
  rw [pushedB, List.eq_nil_of_length_eq_zero h0]; rfl

theorem step_perm {s s' : St} (h : Step s s') : (allBlocks s').Perm (allBlocks s) := by
  rw [List.perm_iff_count]
  intro y
  -- per step, the count of `y` over the eight places: a flight renamed in place changes nothing, a moved block is `omega`
  simp only [allBlocks, List.count_append]
  cases h with
  | start b hb | freeLocal b hb =>
    have := (List.perm_cons_erase hb).count_eq y
    simp only [held_cons, Flight.holds, List.count_append, List.count_cons, List.count_nil, if_true] at this ⊢
    omega
  | load _ _ _ h | cas2fail _ _ _ _ _ h | cas2delay _ _ _ _ _ h | load4 _ _ _ h | cas4fail _ _ _ _ h | load5 _ _ _ h
  | cas5fail _ _ _ _ _ h | cas5ok _ _ _ _ _ h =>
    simp only [h, held_append, held_cons, Flight.holds, Bool.false_eq_true, if_false, List.nil_append]
  | cas2push _ _ _ _ _ h _ _ | cas4ok _ _ _ _ h _ =>
    simp only [h, held_append, held_cons, Flight.holds, List.count_append, List.count_cons, List.count_nil, if_true,
      Bool.false_eq_true, if_false]
    omega
  | tfCollect => simp only [List.count_append, List.count_nil]; omega
  | lfCollect h | takeDl h _ => simp only [h, List.count_nil]; omega
  | malloc b rest h => simp only [h, List.count_cons]; omega
  | procStart b rest h ho => simp only [h, ho, List.map_cons, List.map_nil, List.count_cons, List.count_nil]; omega
  | procSetUse _ ho _ _ | procNever _ ho _ => simp only [ho, List.map_cons, List.map_nil]
  | procGiveUp _ ho | procFree _ ho => simp only [ho, List.map_cons, List.map_nil, List.count_cons, List.count_nil]; omega

theorem count_le_one {s : St} (hnd : (allBlocks s).Nodup) (y : Blk) :
    s.tf.count y + s.dl.count y + s.pend.count y + (s.own.map (·.1)).count y + s.free.count y + s.lf.count y + s.live.count y
      + (held s.fl).count y ≤ 1 := by
  have := List.nodup_iff_count.1 hnd y
  simpa only [allBlocks, List.count_append] using this

/-- the blocks handed to the owner by a delayed free and not yet taken up with the flag re-armed -/
def waiting (s : St) : List Blk := s.dl ++ s.pend ++ (s.own.filter (fun p => !p.2)).map (·.1)

theorem mem_waiting {s : St} {y : Blk} : y ∈ waiting s ↔ y ∈ s.dl ∨ y ∈ s.pend ∨ (y, false) ∈ s.own := by
  simp [waiting]

theorem not_mem_waiting {s : St} (hnd : (allBlocks s).Nodup) (ho1 : s.own.length ≤ 1) {b : Blk} (hb : (b, true) ∈ s.own) :
    b ∉ waiting s := by
  intro hw
  -- on `dl` or `pend` it would be a second copy of `b`; and `own` has one entry, `(b, true)`
  have hy := count_le_one hnd b
  have hc : 1 ≤ (s.own.map (·.1)).count b := List.count_pos_iff.2 (List.mem_map.2 ⟨_, hb, rfl⟩)
  rcases mem_waiting.1 hw with h | h | h
  · have := List.count_pos_iff.2 h; omega
  · have := List.count_pos_iff.2 h; omega
  · have : 2 ≤ s.own.length :=
      List.Nodup.length_le_of_subset (l₁ := [(b, true), (b, false)]) (by simp) (by simp [hb, h])
    omega

theorem Inv.pushed_waiting {s : St} (h : Inv s) : pushedB s.fl ⊆ waiting s := by
  refine pushedB_subset.2 fun x hx hf hh => ?_
  have hp := h.pushed x hx hf hh
  simp only [List.mem_append, List.mem_map] at hp
  rcases hp with (hd | hp) | ⟨⟨b', t⟩, hm, hb⟩
  · exact mem_waiting.2 (.inl hd)
  · exact mem_waiting.2 (.inr (.inl hp))
  · cases t
    · exact mem_waiting.2 (.inr (.inr (hb ▸ hm)))
    · exact absurd hb.symm (h.ownOk b' hm x hx hf hh)

theorem Inv.nFreeing_eq {s : St} (h : Inv s) : nFreeing s.fl = if s.flag = .freeing then 1 else 0 := by
  split
  next hf => exact h.freeing1.1 hf
  next hf => exact h.freeing1.2 hf

theorem Inv.of_waiting {s : St} (hnd : (allBlocks s).Nodup) (hfr : nFreeing s.fl = if s.flag = .freeing then 1 else 0)
    (hpw : pushedB s.fl ⊆ waiting s) (hno : s.flag = .no → waiting s ≠ []) (ho1 : s.own.length ≤ 1) : Inv s := by
  rw [pushedB_subset] at hpw
  have hsub : waiting s ⊆ s.dl ++ s.pend ++ s.own.map (·.1) :=
    ((List.Sublist.refl _).append (List.filter_sublist.map _)).subset
  exact ⟨hnd, ⟨fun hf => by rw [hfr, if_pos hf], fun hf => by rw [hfr, if_neg hf]⟩, fun x hx hf hh => hsub (hpw x hx hf hh),
    fun b hb x hx hf hh e => not_mem_waiting hnd ho1 hb (e ▸ hpw x hx hf hh), hno, ho1⟩

theorem inv_step {s s' : St} (hinv : Inv s) (hstep : Step s s') : Inv s' := by
  have hnd := (step_perm hstep).nodup_iff.2 hinv.nodup
  have hfr := hinv.nFreeing_eq
  have hpw := hinv.pushed_waiting
  have hno : s.flag = .no → waiting s ≠ [] := hinv.noDelay
  have ho1 := hinv.own1
  cases hstep with
  | load _ _ _ h | cas2fail _ _ _ _ _ h | cas2push _ _ _ _ _ h | load4 _ _ _ h | cas4fail _ _ _ _ h | load5 _ _ _ h
  | cas5fail _ _ _ _ _ h =>
    -- the flight is where it was but for the values it has loaded, or had not set the flag and is gone:
    -- as many flights as before have set the flag, the same blocks are pushed
    exact .of_waiting hnd (Eq.trans (by simp [h, Flight.isFreeing]) hfr)
      (List.Subset.trans (by simp [h, Flight.isFreeing, Flight.holds]) hpw) hno ho1
  | start b hb =>
    exact .of_waiting hnd (Eq.trans (by simp [Flight.isFreeing]) hfr) (List.Subset.trans (by simp [Flight.isFreeing]) hpw) hno ho1
  | cas2delay pre post b hh ff h heq hu =>
    -- the flag was `use`, set by no flight; this one has set it now, and has not pushed
    refine .of_waiting hnd ?_ (List.Subset.trans (by simp [h, Flight.isFreeing, Flight.holds]) hpw) nofun ho1
    simp [h, heq.2, hu, Flight.isFreeing] at hfr ⊢; omega
  | cas4ok pre post b d h heq =>
    -- the flight has pushed: its block is on `dl`, which makes it the head of `waiting`
    exact .of_waiting hnd (Eq.trans (by simp [h, Flight.isFreeing]) hfr)
      (List.Subset.trans (by simp [h, Flight.isFreeing, Flight.holds]) (List.cons_subset_cons b hpw))
      (fun _ => List.cons_ne_nil b (waiting s)) ho1
  | cas5ok pre post b hh ff h heq =>
    -- this flight has set the flag, so no other has; it has pushed, so its block is waiting: the flag may become `no`
    have hb : b ∈ waiting s := hpw (by simp [h, Flight.isFreeing, Flight.holds])
    refine .of_waiting hnd ?_ (List.Subset.trans (by simp [h, Flight.isFreeing, Flight.holds]) hpw)
      (fun _ => List.ne_nil_of_mem hb) ho1
    show nFreeing (pre ++ post) = 0
    simp only [h, nFreeing_append, nFreeing_cons, Flight.isFreeing, if_true] at hfr ⊢
    split at hfr <;> omega
  | takeDl h ho =>
    have hw : waiting { s with pend := s.dl, dl := [] } = waiting s := by simp [waiting, h]
    exact .of_waiting hnd hfr (hw ▸ hpw) (hw ▸ hno) ho1
  | procStart b rest h ho =>
    have hw : waiting s ⊆ waiting { s with pend := rest, own := [(b, false)] } := by
      intro y; simp only [mem_waiting, h, ho, List.mem_cons, Prod.mk.injEq, List.not_mem_nil]; grind
    exact .of_waiting hnd hfr (List.Subset.trans hpw hw)
      (fun _ => List.ne_nil_of_mem (mem_waiting.2 (.inr (.inr (List.mem_cons_self ..))))) (Nat.le_refl 1)
  | procSetUse b ho h h' =>
    -- the flag is not `freeing`: no flight has set it, none has pushed
    have hn0 : nFreeing s.fl = 0 := hfr.trans (if_neg h)
    exact .of_waiting hnd hn0 (pushedB_eq_nil hn0 ▸ List.nil_subset _) nofun (Nat.le_refl 1)
  | procNever b ho h' =>
    have hn0 : nFreeing s.fl = 0 := hfr.trans (if_neg (by rw [h']; decide))
    exact .of_waiting hnd hfr (pushedB_eq_nil hn0 ▸ List.nil_subset _) (fun hc => by rw [h'] at hc; cases hc) (Nat.le_refl 1)
  | procGiveUp b ho =>
    have hw : waiting s ⊆ waiting { s with dl := b :: s.dl, own := [] } := by
      intro y; simp only [mem_waiting, ho, List.mem_cons, Prod.mk.injEq, List.not_mem_nil]; grind
    exact .of_waiting hnd hfr (List.Subset.trans hpw hw)
      (fun _ => List.ne_nil_of_mem (mem_waiting.2 (.inl (List.mem_cons_self ..)))) (Nat.zero_le 1)
  | procFree b ho =>
    have hw : waiting { s with lf := b :: s.lf, own := [] } = waiting s := by simp [waiting, ho]
    exact .of_waiting hnd hfr (hw ▸ hpw) (hw ▸ hno) (Nat.zero_le 1)
  -- tfCollect, lfCollect, malloc, freeLocal: owner-local moves that neither `waiting`, the flag nor the flights mention
  | _ => exact .of_waiting hnd hfr hpw hno ho1

end Delayed
#print axioms Delayed.inv_step
