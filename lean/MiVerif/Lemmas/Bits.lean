import MiVerif.Gen.Arith
import MiVerif.Lemmas.Word
/-! bit masks, `mi_clz` / `mi_bsr` as `Nat.log2`, and `quad`, the logarithmic class with two mantissa bits behind both `mi_bin` and
   `mi_slice_bin`; each generated definition (explicit `% 2^64` wrap-around) is bridged to its clean form once -/

namespace C16L
open Gen

/-! ### bit masks -/

theorem and_hi_mask (x k : Nat) (hk : k ≤ 64) (hx : x < 2^64) :
    x &&& (2^64 - 2^k) = x / 2^k * 2^k := by
  -- the mask is `2^k` times `64 - k` ones: the quotient by `2^k` is `x / 2^k` (which has at most `64 - k` bits), the remainder is 0
  have hm : 2^64 - 2^k = (2^(64-k) - 1) * 2^k := by
    rw [Nat.sub_mul, ← Nat.pow_add, Nat.sub_add_cancel hk, Nat.one_mul]
  have hq : x / 2^k < 2^(64-k) := Nat.div_lt_of_lt_mul (by rw [← Nat.pow_add, Nat.add_sub_cancel' hk]; exact hx)
  have h1 : (x &&& (2^64 - 2^k)) / 2^k = x / 2^k := by
    rw [Nat.and_div_two_pow, hm, Nat.mul_div_cancel _ (Nat.two_pow_pos k), Nat.and_two_pow_sub_one_of_lt_two_pow hq]
  have h2 : (x &&& (2^64 - 2^k)) % 2^k = 0 := by
    rw [Nat.and_mod_two_pow, hm, Nat.mul_mod_left, Nat.and_zero]
  rw [← Nat.div_add_mod (x &&& (2^64 - 2^k)) (2^k), h1, h2, Nat.add_zero, Nat.mul_comm]

theorem land_even (x : Nat) (h : x < 2^64) : x &&& 18446744073709551614 = x / 2 * 2 :=
  and_hi_mask x 1 (by omega) h

theorem and_pred_pow2 (k : Nat) : 2^k &&& (2^k - 1) = 0 := by
  rw [Nat.and_two_pow_sub_one_eq_mod, Nat.mod_self]

/-! ### count leading zeros / bit scan reverse -/

theorem clz_eq (w : Nat) (h0 : w ≠ 0) (h : w < 2^64) : mi_clz w = 63 - Nat.log2 w := by
  have hl : Nat.log2 w ≤ 63 := Nat.le_of_lt_succ ((Nat.log2_lt h0).mpr h)
  -- `63 - log2 w` is a natural number below 2^64: the cast to `size_t` leaves it as it is
  have e : (63 : Int) - (Nat.log2 w : Int) = ((63 - Nat.log2 w : Nat) : Int) := by omega
  unfold mi_clz __builtin_clzl
  rw [if_neg h0, e, Int.emod_eq_of_lt (Int.natCast_nonneg _) (by omega), Int.toNat_natCast]

theorem bsr_expr (w : Nat) (h0 : w ≠ 0) (h : w < 2^64) :
    (63 + 18446744073709551616 - mi_clz w) % 18446744073709551616 = Nat.log2 w := by
  have hl : Nat.log2 w ≤ 63 := Nat.le_of_lt_succ ((Nat.log2_lt h0).mpr h)
  rw [clz_eq w h0 h, Word.wrap_sub (Nat.sub_le 63 _) (by decide), Nat.sub_sub_self hl]

theorem bsr_eq (w : Nat) (h0 : w ≠ 0) (h : w < 2^64) : mi_bsr w = Nat.log2 w := by
  unfold mi_bsr
  simp only [h0, if_false]
  exact bsr_expr w h0 h

/-- `MI_SIZE_BITS - mi_clz(d - 1)`, the shift of `mi_get_fast_divisor` -/
theorem bits_pred (d : Nat) (hd : 0 < d) (hd2 : d ≤ 2^64) :
    ∃ s, (64 + 18446744073709551616 - mi_clz (d - 1)) % 18446744073709551616 = s ∧ d ≤ 2^s ∧ 2^s < 2 * d := by
  by_cases h : d - 1 = 0
  · exact ⟨0, by rw [h]; rfl, by omega, by omega⟩
  · have hl : Nat.log2 (d - 1) < 64 := (Nat.log2_lt h).mpr (by omega)
    have hlo : 2^Nat.log2 (d - 1) ≤ d - 1 := Nat.log2_self_le h
    have hhi : d - 1 < 2^(Nat.log2 (d - 1) + 1) := Nat.lt_log2_self
    refine ⟨Nat.log2 (d - 1) + 1, ?_, Nat.le_of_pred_lt hhi, ?_⟩
    · rw [clz_eq (d - 1) h (by omega), Word.wrap_sub (by omega) (by decide)]; omega
    · rw [Nat.pow_succ]; omega

/-! ### logarithmic classes with two mantissa bits (size classes `mi_bin`, span bins `mi_slice_bin`) -/

/-- four classes per binade: `4 · log2 v` plus the two bits of `v` below the leading one -/
def quad (v : Nat) : Nat := 4 * Nat.log2 v + v / 2 ^ (Nat.log2 v - 2) % 4

theorem log2_range (v lo hi : Nat) (h1 : 2^lo ≤ v) (h2 : v < 2^(hi+1)) : lo ≤ Nat.log2 v ∧ Nat.log2 v ≤ hi :=
  have hv : v ≠ 0 := Nat.ne_of_gt (Nat.lt_of_lt_of_le (Nat.two_pow_pos lo) h1)
  ⟨(Nat.le_log2 hv).mpr h1, Nat.le_of_lt_succ ((Nat.log2_lt hv).mpr h2)⟩

theorem log2_mono {v v' : Nat} (hv : v ≠ 0) (h : v ≤ v') : Nat.log2 v ≤ Nat.log2 v' :=
  (Nat.le_log2 (Nat.ne_of_gt (Nat.lt_of_lt_of_le (Nat.pos_of_ne_zero hv) h))).mpr (Nat.le_trans (Nat.log2_self_le hv) h)

theorem quad_digit (v : Nat) (h4 : 4 ≤ v) : 4 ≤ v / 2^(Nat.log2 v - 2) ∧ v / 2^(Nat.log2 v - 2) < 8 := by
  have hv : v ≠ 0 := by omega
  have hb : 2 ≤ Nat.log2 v := (Nat.le_log2 hv).mpr h4
  have hlo := Nat.log2_self_le hv
  have hhi : v < 2^(Nat.log2 v + 1) := Nat.lt_log2_self
  have hP : 0 < 2^(Nat.log2 v - 2) := Nat.two_pow_pos _
  rw [show Nat.log2 v = (Nat.log2 v - 2) + 2 by omega, Nat.pow_add] at hlo
  rw [show Nat.log2 v + 1 = (Nat.log2 v - 2) + 3 by omega, Nat.pow_add] at hhi
  exact ⟨(Nat.le_div_iff_mul_le hP).mpr (by rw [Nat.mul_comm]; exact hlo), (Nat.div_lt_iff_lt_mul hP).mpr (by rw [Nat.mul_comm]; exact hhi)⟩

theorem quad_spec (v lo hi : Nat) (hlo : 2 ≤ lo) (h1 : 2^lo ≤ v) (h2 : v < 2^(hi+1)) :
    ∃ b q, lo ≤ b ∧ b ≤ hi ∧ q < 4 ∧ quad v = 4 * b + q ∧ (4 + q) * 2^(b-2) ≤ v ∧ v < (5 + q) * 2^(b-2) := by
  obtain ⟨hb1, hb2⟩ := log2_range v lo hi h1 h2
  obtain ⟨t4, t8⟩ := quad_digit v (Nat.le_trans (Nat.pow_le_pow_right (by decide) hlo : 2^2 ≤ 2^lo) h1)
  refine ⟨Nat.log2 v, v / 2 ^ (Nat.log2 v - 2) % 4, hb1, hb2, Nat.mod_lt _ (by omega), rfl, ?_⟩
  -- the digit is `4 + q`
  obtain ⟨d1, d2⟩ := Word.div_mul_bounds v (Nat.two_pow_pos (Nat.log2 v - 2))
  generalize 2^(Nat.log2 v - 2) = P at *
  rw [show 4 + v / P % 4 = v / P by omega, show 5 + v / P % 4 = v / P + 1 by omega, Nat.add_mul, Nat.one_mul]
  exact ⟨d1, d2⟩

/-- the C idiom `(b << 2) + ((v >> (b - 2)) & 3)` for `b = log2 v` (`mi_bin`), and with `|` in place of `+` (`mi_slice_bin`): the two
    low bits of `b << 2` are clear -/
theorem quad_gen (v : Nat) (h2 : 2 ≤ Nat.log2 v) (h64 : Nat.log2 v < 64) :
    (Nat.log2 v * 2^2) % 18446744073709551616 + (v / 2^((Nat.log2 v + 18446744073709551616 - 2) % 18446744073709551616) &&& 3) = quad v ∧
    (Nat.log2 v * 2^2) % 18446744073709551616 ||| (v / 2^((Nat.log2 v + 18446744073709551616 - 2) % 18446744073709551616) &&& 3) = quad v := by
  unfold quad
  rw [Word.wrap_sub h2 (by omega), Nat.and_two_pow_sub_one_eq_mod _ 2, Nat.mod_eq_of_lt (by omega), Nat.mul_comm]
  exact ⟨rfl, (Nat.two_pow_add_eq_or_of_lt (Nat.mod_lt _ (by decide)) _).symm⟩

theorem quad_ge (v : Nat) : 4 * Nat.log2 v ≤ quad v := Nat.le_add_right _ _
theorem quad_lt (v : Nat) : quad v < 4 * Nat.log2 v + 4 := Nat.add_lt_add_left (Nat.mod_lt _ (by decide)) _

theorem quad_mono {v v' : Nat} (h4 : 4 ≤ v) (h : v ≤ v') : quad v ≤ quad v' := by
  rcases Nat.lt_or_eq_of_le (log2_mono (by omega) h) with hlt | heq
  · -- a later binade
    have := quad_lt v
    have := quad_ge v'
    omega
  · -- the same binade: the digit grows with `v`
    have d := quad_digit v h4
    have d' := quad_digit v' (Nat.le_trans h4 h)
    have hd : v / 2^(Nat.log2 v - 2) ≤ v' / 2^(Nat.log2 v - 2) := Nat.div_le_div_right h
    unfold quad
    rw [← heq] at d' ⊢
    omega

end C16L
