import MiVerif.Model.Options
/-! option values (model: MiVerif/Model/Options.lean): `parseBuf` by its three branches, the shape of an accepted number, `strtol` on
   sign ++ digits ++ suffix, and the saturation of sizes -/
namespace C20L
open OptM

def trueWords : List (List Char) := ["1".toList, "TRUE".toList, "YES".toList, "ON".toList]
def falseWords : List (List Char) := ["0".toList, "FALSE".toList, "NO".toList, "OFF".toList]

theorem isWord_iff {s : List Char} {ws : List (List Char)} (hs : splitWords s = ws) (hne : [] ∉ ws) (b : List Char) :
    isWord s b = true ↔ b ∈ ws := by
  simp only [isWord, hs, Bool.and_eq_true, List.contains_iff_mem, Bool.not_eq_true', List.isEmpty_eq_false_iff]
  exact ⟨fun h => h.2, fun h => ⟨fun e => hne (e ▸ h), h⟩⟩

theorem isWord_true : ∀ b, isWord "1;TRUE;YES;ON".toList b = true ↔ b ∈ trueWords := isWord_iff (by decide) (by decide)
theorem isWord_false : ∀ b, isWord "0;FALSE;NO;OFF".toList b = true ↔ b ∈ falseWords := isWord_iff (by decide) (by decide)

theorem true_branch_iff {buf : List Char} : (buf.isEmpty || isWord "1;TRUE;YES;ON".toList buf) = true ↔ buf = [] ∨ buf ∈ trueWords := by
  rw [Bool.or_eq_true, List.isEmpty_iff, isWord_true]

theorem parseBuf_true (sz : Bool) (dflt : Int) {buf : List Char} (h : buf = [] ∨ buf ∈ trueWords) :
    parseBuf sz dflt buf = (.initialized, 1) := by
  unfold parseBuf
  rw [if_pos (true_branch_iff.2 h)]

theorem parseBuf_false (sz : Bool) (dflt : Int) {buf : List Char} (h : buf ∈ falseWords) :
    parseBuf sz dflt buf = (.initialized, 0) := by
  unfold parseBuf
  rw [if_neg (mt true_branch_iff.1 (by revert buf; decide)), if_pos ((isWord_false buf).2 h)]

/-- the third branch of `parseBuf`, its destructuring `let`s written as projections -/
theorem parseBuf_num (sz : Bool) (dflt : Int) {buf : List Char} (h1 : buf ≠ []) (ht : buf ∉ trueWords) (hf : buf ∉ falseWords) :
    parseBuf sz dflt buf =
      if ((if sz = true then sizeKiB (strtol buf).1 (strtol buf).2.1 else ((strtol buf).1, (strtol buf).2.1)).2.isEmpty
          && (strtol buf).2.2) = true
      then (.initialized, (if sz = true then sizeKiB (strtol buf).1 (strtol buf).2.1 else ((strtol buf).1, (strtol buf).2.1)).1)
      else (.defaulted, dflt) := by
  unfold parseBuf
  rw [if_neg (mt true_branch_iff.1 (not_or.2 ⟨h1, ht⟩)), if_neg (mt (isWord_false buf).1 hf)]

def unitSuffixes : List (List Char) := [[], ['K'], ['M'], ['G'], ['T']]
def byteSuffixes : List (List Char) := [[], ['I','B'], ['B']]

theorem mem_unitSuffixes {u : List Char} : u ∈ unitSuffixes ↔ u = [] ∨ u = ['K'] ∨ u = ['M'] ∨ u = ['G'] ∨ u = ['T'] := by
  simp only [unitSuffixes, List.mem_cons, List.not_mem_nil, or_false]

theorem stripUnit_cases (r : List Char) : ∃ u ∈ unitSuffixes, r = u ++ (stripUnit r).2 := by
  unfold stripUnit; split
  · exact ⟨['K'], by decide, rfl⟩
  · exact ⟨['M'], by decide, rfl⟩
  · exact ⟨['G'], by decide, rfl⟩
  · exact ⟨['T'], by decide, rfl⟩
  · exact ⟨[], by decide, rfl⟩

theorem stripBytes_cases (r : List Char) : ∃ b ∈ byteSuffixes, r = b ++ stripBytes r := by
  unfold stripBytes; split
  · exact ⟨['I', 'B'], by decide, rfl⟩
  · exact ⟨['B'], by decide, rfl⟩
  · exact ⟨[], by decide, rfl⟩

theorem sizeKiB_rest_nil (v : Int) (r : List Char) (h : (sizeKiB v r).2 = []) :
    ∃ u ∈ unitSuffixes, ∃ b ∈ byteSuffixes, r = u ++ b := by
  obtain ⟨u, hu, e1⟩ := stripUnit_cases r
  obtain ⟨b, hb, e2⟩ := stripBytes_cases (stripUnit r).2
  rw [show stripBytes (stripUnit r).2 = [] from h, List.append_nil] at e2
  exact ⟨u, hu, b, hb, e2 ▸ e1⟩

/-- what the buffer of an accepted numeric value looks like -/
def WellFormedNum (sz : Bool) (buf : List Char) : Prop :=
  ∃ ws sgn ds suf, buf = ws ++ (sgn ++ (ds ++ suf)) ∧ (∀ c ∈ ws, isSpace c = true) ∧ (sgn = [] ∨ sgn = ['-'] ∨ sgn = ['+']) ∧
    ds ≠ [] ∧ (∀ c ∈ ds, c.isDigit = true) ∧
    (if sz then ∃ u ∈ unitSuffixes, ∃ b ∈ byteSuffixes, suf = u ++ b else suf = [])

theorem stripSign_cases (t : List Char) : ∃ sgn, t = sgn ++ (stripSign t).2 ∧ (sgn = [] ∨ sgn = ['-'] ∨ sgn = ['+']) := by
  unfold stripSign; split
  · exact ⟨['-'], rfl, by simp⟩
  · exact ⟨['+'], rfl, by simp⟩
  · exact ⟨[], rfl, by simp⟩

theorem mem_takeWhile {p : Char → Bool} {l : List Char} {c : Char} (hc : c ∈ l.takeWhile p) : p c = true :=
  List.all_eq_true.1 List.all_takeWhile c hc

theorem strtol_shape (buf : List Char) (v : Int) (rest : List Char) (h : strtol buf = (v, rest, true)) :
    ∃ ws sgn ds, buf = ws ++ (sgn ++ (ds ++ rest)) ∧ (∀ c ∈ ws, isSpace c = true) ∧ (sgn = [] ∨ sgn = ['-'] ∨ sgn = ['+']) ∧
    ds ≠ [] ∧ (∀ c ∈ ds, c.isDigit = true) := by
  unfold strtol at h
  dsimp only at h
  split at h
  · cases h
  · rename_i hne
    obtain ⟨sgn, ht, hs⟩ := stripSign_cases (buf.dropWhile isSpace)
    refine ⟨buf.takeWhile isSpace, sgn, (stripSign (buf.dropWhile isSpace)).2.takeWhile Char.isDigit,
      ?_, fun _ => mem_takeWhile, hs, fun h0 => hne (h0 ▸ rfl), fun _ => mem_takeWhile⟩
    -- `rest` is what the digits leave; the three cuts put together again
    have hrest := (Prod.mk.inj (Prod.mk.inj h).2).1
    rw [← hrest, List.takeWhile_append_dropWhile, ← ht, List.takeWhile_append_dropWhile]

theorem accepted_is_wellformed (sz : Bool) (dflt v : Int) (buf : List Char) (h : parseBuf sz dflt buf = (.initialized, v)) :
    buf = [] ∨ (buf ∈ trueWords ∧ v = 1) ∨ (buf ∈ falseWords ∧ v = 0) ∨ WellFormedNum sz buf := by
  by_cases h1 : buf = []
  · exact .inl h1
  by_cases ht : buf ∈ trueWords
  · rw [parseBuf_true sz dflt (.inr ht)] at h; exact .inr (.inl ⟨ht, (Prod.mk.inj h).2.symm⟩)
  by_cases hf : buf ∈ falseWords
  · rw [parseBuf_false sz dflt hf] at h; exact .inr (.inr (.inl ⟨hf, (Prod.mk.inj h).2.symm⟩))
  refine .inr (.inr (.inr ?_))
  rw [parseBuf_num sz dflt h1 ht hf] at h
  generalize hvr : (if sz = true then sizeKiB (strtol buf).1 (strtol buf).2.1 else ((strtol buf).1, (strtol buf).2.1)) = vr at h
  split at h
  · rename_i hok
    rw [Bool.and_eq_true, List.isEmpty_iff] at hok
    obtain ⟨ws, sgn, ds, e, hws, hsgn, hne, hdig⟩ := strtol_shape buf (strtol buf).1 (strtol buf).2.1 (by rw [← hok.2])
    refine ⟨ws, sgn, ds, _, e, hws, hsgn, hne, hdig, ?_⟩
    subst hvr
    cases sz
    · exact hok.1
    · exact sizeKiB_rest_nil _ _ hok.1
  · cases h

theorem span_append {p : Char → Bool} {a b : List Char} (ha : ∀ c ∈ a, p c = true) (hb : b.takeWhile p = []) :
    (a ++ b).takeWhile p = a ∧ (a ++ b).dropWhile p = b := by
  have hdrop : b.dropWhile p = b := by
    have := List.takeWhile_append_dropWhile (p := p) (l := b)
    rwa [hb] at this
  rw [List.takeWhile_append_of_pos ha, List.dropWhile_append_of_pos ha, hb, hdrop, List.append_nil]
  exact ⟨rfl, rfl⟩

theorem digit_not_space (c : Char) (h : c.isDigit = true) : isSpace c = false ∧ c ≠ '-' ∧ c ≠ '+' := by
  -- none of the eight characters is a digit
  have ne : ∀ x : Char, x.isDigit = false → c ≠ x := fun x hx e => by rw [e, hx] at h; cases h
  refine ⟨?_, ne '-' rfl, ne '+' rfl⟩
  simp only [isSpace, decide_eq_false_iff_not, not_or]
  exact ⟨ne _ rfl, ne _ rfl, ne _ rfl, ne _ rfl, ne _ rfl, ne _ rfl⟩

theorem sign_then_digit (sgn t : List Char) (d0 : Char) (hs : sgn = [] ∨ sgn = ['-'] ∨ sgn = ['+'])
    (hd0 : isSpace d0 = false ∧ d0 ≠ '-' ∧ d0 ≠ '+') :
    (sgn ++ d0 :: t).dropWhile isSpace = sgn ++ d0 :: t ∧ stripSign (sgn ++ d0 :: t) = (decide (sgn = ['-']), d0 :: t) := by
  rcases hs with rfl | rfl | rfl
  · exact ⟨by simp [hd0.1], by simp [stripSign, hd0.2.1, hd0.2.2]⟩
  · exact ⟨by simp [isSpace], rfl⟩
  · exact ⟨by simp [isSpace], rfl⟩

theorem strtol_num (sgn ds suf : List Char) (hs : sgn = [] ∨ sgn = ['-'] ∨ sgn = ['+']) (hne : ds ≠ [])
    (hd : ∀ c ∈ ds, c.isDigit = true) (hsuf : suf.takeWhile Char.isDigit = []) :
    strtol (sgn ++ (ds ++ suf)) = (clampLong (if sgn = ['-'] then -(digitsVal ds : Int) else (digitsVal ds : Int)), suf, true) := by
  obtain ⟨d0, ds', rfl⟩ := List.exists_cons_of_ne_nil hne
  obtain ⟨e1, e2⟩ := sign_then_digit sgn (ds' ++ suf) d0 hs (digit_not_space d0 (hd d0 (by simp)))
  obtain ⟨tw, dw⟩ := span_append hd hsuf
  rw [List.cons_append] at tw dw ⊢
  unfold strtol
  simp only [e1, e2, tw, dw]
  simp

/-- documented value of a size in KiB: saturates at MI_MAX_ALLOC_SIZE / KiB -/
def docKiB (kib : Nat) : Int := if kib > MAX_ALLOC then ((MAX_ALLOC / 1024 : Nat) : Int) else (kib : Int)

theorem satKiB_false (p : Nat) : satKiB false p = docKiB p := by
  unfold satKiB docKiB MAX_ALLOC LONG_MAX
  simp only [Bool.false_or, decide_eq_true_eq]
  split <;> split <;> omega

/-- `mi_mul_overflow` followed by the saturation: the documented value of the exact product -/
theorem satKiB_wrap (p : Nat) : satKiB (decide (p ≥ 2^64)) (p % 2^64) = docKiB p := by
  by_cases h : p ≥ 2^64
  · -- the product overflows: the left side is saturated by the flag, the right side by its size
    rw [decide_eq_true h]
    unfold satKiB docKiB MAX_ALLOC LONG_MAX
    simp only [Bool.true_or, if_true]
    rw [if_neg (by omega), if_pos (by omega)]
  · rw [decide_eq_false h, Nat.mod_eq_of_lt (by omega), satKiB_false]

theorem docKiB_sat {p q : Nat} (hp : MAX_ALLOC < p) (hq : MAX_ALLOC < q) : docKiB p = docKiB q := by
  unfold docKiB; rw [if_pos hp, if_pos hq]

/-- KiB denoted by `n` with unit suffix `u` (no unit: bytes, rounded up) -/
def kibOf (n : Nat) (u : List Char) : Nat :=
  if u = ['K'] then n else if u = ['M'] then n * 1024 else if u = ['G'] then n * (1024 * 1024)
  else if u = ['T'] then n * (1024 * 1024 * 1024) else (n + 1023) / 1024

/-- the fifteen suffixes of a size: `strtol` stops in front of each, `stripUnit` takes exactly the unit letter (a byte suffix is
    not taken for one) and `stripBytes` the rest -/
theorem suffix_table : ∀ u ∈ unitSuffixes, ∀ b ∈ byteSuffixes,
    (u ++ b).takeWhile Char.isDigit = [] ∧ stripUnit (u ++ b) = ((stripUnit u).1, b) ∧ stripBytes b = [] := by
  decide

theorem kibOf_eq (n : Nat) {u : List Char} (hu : u ∈ unitSuffixes) :
    kibOf n u = match (stripUnit u).1 with | some k => n * k | none => (n + 1023) / 1024 := by
  rcases mem_unitSuffixes.1 hu with rfl | rfl | rfl | rfl | rfl <;> simp [kibOf, stripUnit]

theorem sizeKiB_suffix (v : Int) {u b : List Char} (hu : u ∈ unitSuffixes) (hb : b ∈ byteSuffixes) :
    sizeKiB v (u ++ b) = (docKiB (kibOf v.toNat u), []) := by
  obtain ⟨_, hunit, hbytes⟩ := suffix_table u hu b hb
  have hsize : (if v < 0 then 0 else v.toNat) = v.toNat := by split <;> omega
  unfold sizeKiB
  simp only [hsize, hunit, hbytes, kibOf_eq _ hu]
  cases (stripUnit u).1 with
  | none => simp only [satKiB_false]
  | some k => simp only [satKiB_wrap]

/-- `strtol` clamped the digits to `long`; after the saturation that does not show: from `LONG_MAX` on every unit is saturated -/
theorem docKiB_clamp (n : Nat) {u : List Char} (hu : u ∈ unitSuffixes) : docKiB (kibOf (clampLong n).toNat u) = docKiB (kibOf n u) := by
  by_cases hn : (n : Int) > LONG_MAX
  · have hbig : ∀ m, 9223372036854775807 ≤ m → MAX_ALLOC < kibOf m u := by
      intro m hm
      rcases mem_unitSuffixes.1 hu with rfl | rfl | rfl | rfl | rfl <;> simp [kibOf, MAX_ALLOC] <;> omega
    rw [clampLong, if_pos hn]
    exact docKiB_sat (hbig _ (Nat.le_refl _)) (hbig n (by unfold LONG_MAX at hn; omega))
  · rw [clampLong, if_neg hn, if_neg (by unfold LONG_MIN; omega), Int.toNat_natCast]

end C20L
