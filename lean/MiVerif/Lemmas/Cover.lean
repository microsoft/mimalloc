/-! Inclusion of one finite table in another by a single pass (for tables of strings: Props/C19).

   Deciding `x ∈ tbl` for a string literal makes the kernel compare `x` with every entry before it, and each comparison UTF-8-encodes
   both literals (`String.decEq` works on the byte arrays).  So what has to be kept small is the number of comparisons: `covered xs tbl`
   walks `tbl` once and compares each entry with the head of `xs` only.  It answers `true` only if every element of `xs` occurs in
   `tbl`; it finds them all when `xs` lists them in the order of `tbl` (repetitions allowed), which `sort` arranges for a table that
   is sorted. Soundness needs nothing of the order. -/
namespace Cover
variable {α : Type}

/-- insertion sort by any `le`, by structural recursion so that the kernel can run it (core's `mergeSort` is by well-founded recursion
    and gets stuck there); only `mem_sort` is needed of it -/
def ins (le : α → α → Bool) (x : α) : List α → List α
  | [] => [x]
  | y :: ys => if le x y then x :: y :: ys else y :: ins le x ys

def sort (le : α → α → Bool) (l : List α) : List α := l.foldr (ins le) []

theorem mem_ins {le : α → α → Bool} {x z : α} : ∀ {l : List α}, z ∈ ins le x l ↔ z = x ∨ z ∈ l
  | [] => by simp [ins]
  | y :: ys => by
    unfold ins
    split
    · exact List.mem_cons
    · rw [List.mem_cons, mem_ins (l := ys), List.mem_cons, or_left_comm]

theorem mem_sort {le : α → α → Bool} {z : α} : ∀ {l : List α}, z ∈ l → z ∈ sort le l
  | _ :: _, h => mem_ins.2 ((List.mem_cons.1 h).imp id mem_sort)

/-- byte-wise lexicographic order, the order of a table sorted by `nm` / by the generator -/
def leBytes : List UInt8 → List UInt8 → Bool
  | [], _ => true
  | _ :: _, [] => false
  | a :: as, b :: bs => a.toNat < b.toNat || (a.toNat == b.toNat && leBytes as bs)

def leStr (x y : String) : Bool := leBytes x.toByteArray.data.toList y.toByteArray.data.toList

variable [DecidableEq α]

def covered : List α → List α → Bool
  | xs, [] => xs.isEmpty
  | xs, t :: ts => covered (xs.dropWhile (· = t)) ts

theorem mem_of_covered : ∀ {tbl xs : List α}, covered xs tbl = true → ∀ x ∈ xs, x ∈ tbl
  | [], xs, h, x, hx => by rw [List.isEmpty_iff.1 h] at hx; exact hx
  | t :: ts, xs, h, x, hx => by
    -- `x` is one of the leading copies of `t`, or among what is looked for in `ts`
    rw [← List.takeWhile_append_dropWhile (p := (· = t)) (l := xs), List.mem_append] at hx
    rcases hx with hx | hx
    · exact of_decide_eq_true (List.all_eq_true.1 List.all_takeWhile x hx) ▸ List.mem_cons_self
    · exact List.mem_cons_of_mem _ (mem_of_covered (xs := xs.dropWhile (· = t)) h x hx)

theorem subset_of_covered {le : α → α → Bool} {tbl xs : List α} (h : covered (sort le xs) tbl = true) : ∀ x ∈ xs, x ∈ tbl :=
  fun x hx => mem_of_covered h x (mem_sort hx)

end Cover
