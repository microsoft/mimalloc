import MiVerif.Lemmas.DelayedInv
/-! executions of the delayed-free protocol model: the invariant and the blocks along every execution, a flight run alone, the owner's drain -/

namespace Delayed

theorem Reach.trans {s t u : St} (h1 : Reach s t) (h2 : Reach t u) : Reach s u := by
  induction h2 with
  | refl => exact h1
  | step _ hs ih => exact Reach.step ih hs

theorem Reach.single {s t : St} (h : Step s t) : Reach s t := Reach.step (Reach.refl s) h

theorem Reach.head {s t u : St} (h : Step s t) (hr : Reach t u) : Reach s u :=
  Reach.trans (Reach.single h) hr

theorem inv_reach {s0 s : St} (h0 : Inv s0) (hr : Reach s0 s) : Inv s := by
  induction hr with
  | refl => exact h0
  | step _ hs ih => exact inv_step ih hs

theorem reach_perm {s0 s : St} (hr : Reach s0 s) : (allBlocks s).Perm (allBlocks s0) := by
  induction hr with
  | refl => exact .refl _
  | step _ hs ih => exact (step_perm hs).trans ih

theorem ex_head {s t : St} {P : St → Prop} (h : Step s t) (hex : ∃ s', Reach t s' ∧ P s') : ∃ s', Reach s s' ∧ P s' := by
  obtain ⟨s', hr, hp⟩ := hex
  exact ⟨s', Reach.head h hr, hp⟩

/-! a flight run alone finishes: a failed CAS reloads the expected value, so the CAS after it succeeds -/

section
variable {s : St} {pre post : List Flight} {b : Blk}

theorem fin_r5 {hh : List Blk} {ff : Flag} (h : s.fl = pre ++ ⟨b, .r5 hh ff⟩ :: post) : ∃ s', Reach s s' ∧ s'.fl = pre ++ post :=
  ex_head (Step.cas5fail s pre post b hh ff h)
    ⟨_, Reach.single (Step.cas5ok _ pre post b s.tf s.flag rfl ⟨rfl, rfl⟩), rfl⟩

theorem fin_r5load (h : s.fl = pre ++ ⟨b, .r5load⟩ :: post) : ∃ s', Reach s s' ∧ s'.fl = pre ++ post :=
  ex_head (Step.load5 s pre post b h) (fin_r5 rfl)

theorem fin_r4 {d : List Blk} (h : s.fl = pre ++ ⟨b, .r4 d⟩ :: post) : ∃ s', Reach s s' ∧ s'.fl = pre ++ post :=
  ex_head (Step.cas4fail s pre post b d h) (ex_head (Step.cas4ok _ pre post b s.dl rfl rfl) (fin_r5load rfl))

theorem fin_r4load (h : s.fl = pre ++ ⟨b, .r4load⟩ :: post) : ∃ s', Reach s s' ∧ s'.fl = pre ++ post :=
  ex_head (Step.load4 s pre post b h) (fin_r4 rfl)

theorem fin_r2 {hh : List Blk} {ff : Flag} (h : s.fl = pre ++ ⟨b, .r2 hh ff⟩ :: post) : ∃ s', Reach s s' ∧ s'.fl = pre ++ post := by
  refine ex_head (Step.cas2fail s pre post b hh ff h) ?_
  by_cases hu : s.flag = .use
  · exact ex_head (Step.cas2delay _ pre post b s.tf s.flag rfl ⟨rfl, rfl⟩ hu) (fin_r4load rfl)
  · exact ⟨_, Reach.single (Step.cas2push _ pre post b s.tf s.flag rfl ⟨rfl, rfl⟩ hu), rfl⟩

theorem fin_r1 (h : s.fl = pre ++ ⟨b, .r1⟩ :: post) : ∃ s', Reach s s' ∧ s'.fl = pre ++ post :=
  ex_head (Step.load s pre post b h) (fin_r2 rfl)

end

theorem drain_own (s : St) (hfz : s.flag ≠ .freeing) (h1 : s.own.length ≤ 1) :
    ∃ f l, f ≠ .freeing ∧ Reach s { s with own := [], flag := f, lf := l } := by
  match ho : s.own with
  | [] => exact ⟨s.flag, s.lf, hfz, ho ▸ Reach.refl s⟩
  | [(b, true)] => exact ⟨_, _, hfz, Reach.single (Step.procFree s b ho)⟩
  | [(b, false)] =>
    by_cases hn : s.flag = .never
    · exact ⟨_, _, hfz, Reach.step (Reach.single (Step.procNever s b ho hn)) (Step.procFree _ b rfl)⟩
    · exact ⟨.use, _, nofun, Reach.step (Reach.single (Step.procSetUse s b ho hfz hn)) (Step.procFree _ b rfl)⟩
  | _ :: _ :: _ => rw [ho] at h1; simp at h1

theorem drain_pend (s : St) (ho : s.own = []) (hfz : s.flag ≠ .freeing) :
    ∃ f l, f ≠ .freeing ∧ Reach s { s with pend := [], own := [], flag := f, lf := l } := by
  induction hp : s.pend generalizing s with
  | nil => exact ⟨s.flag, s.lf, hfz, hp ▸ ho ▸ Reach.refl s⟩
  | cons b rest ih =>
    obtain ⟨f₁, l₁, hf₁, r₁⟩ := drain_own { s with pend := rest, own := [(b, false)] } hfz (Nat.le_refl 1)
    obtain ⟨f₂, l₂, hf₂, r₂⟩ := ih { s with pend := rest, own := [], flag := f₁, lf := l₁ } rfl hf₁ rfl
    exact ⟨f₂, l₂, hf₂, Reach.head (Step.procStart s b rest hp ho) (r₁.trans r₂)⟩

end Delayed
