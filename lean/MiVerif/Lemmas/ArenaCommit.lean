import MiVerif.Gen.ArenaGen
import MiVerif.Lemmas.Masks
/-! the arena functions as *generated from src/arena.c* (Gen/ArenaGen.lean, extract/arenatr.py).
    For each generated function one lemma (`*_spec`) says what it does to the in-use, committed and accessibility masks; the invariant,
    frame and accessibility theorems of Props/C07 and C13 are read off it. -/
namespace C07A
open GenR MaskAlg

/-- `CommitM.AInv` over the state record of the generated functions -/
def AInvG (σ : ArSt) : Prop := ∀ k, σ.inuse k = false → σ.committed k = true → σ.os k = true

theorem blocksOf_start (σ τ : ArSt) (hst : τ.start = σ.start) (idx n : Int) : blocksOf τ (blockStart σ idx) (n * 33554432) = (idx, n) := by
  unfold blocksOf blockStart
  rw [hst]
  have h1 : ((σ.start : Int) + idx * 33554432 - (σ.start : Int)) = idx * 33554432 := by omega
  rw [h1, Int.mul_ediv_cancel _ (by decide), Int.mul_ediv_cancel _ (by decide)]

/-! ### mi_arena_try_alloc_at -/

/-- the commit-state part of `mi_arena_try_alloc_at`: from the committed / accessible masks `c`, `o` to `c'`, `o'` and the
    `initially_committed` flag `ic` of the memid -/
inductive AllocCase (hasC : Bool) (c o : Mask) (n : Int) (commit : Bool) (idx : Int) (ok : Bool) (c' o' : Mask) (ic : Bool) : Prop
  /-- the arena does not track its commit state -/
  | untracked (htrack : hasC = false) (hc : c' = c) (ho : o' = o) (hic : ic = true)
  /-- a commit is asked for and every block of the range is recorded as committed already -/
  | committed (htrack : hasC = true) (hcommit : commit = true) (hany : bmAnyZero c idx n = false)
      (hc : c' = mSet c idx n) (ho : o' = o) (hic : ic = true)
  /-- … some block is not, and the OS grants the commit -/
  | granted (htrack : hasC = true) (hcommit : commit = true) (hany : bmAnyZero c idx n = true) (hok : ok = true)
      (hc : c' = mSet c idx n) (ho : o' = mSet o idx n) (hic : ic = true)
  /-- … and the OS refuses: the bits just set are cleared again -/
  | refused (htrack : hasC = true) (hcommit : commit = true) (hany : bmAnyZero c idx n = true) (hok : ok = false)
      (hc : c' = mClr (mSet c idx n) idx n) (ho : o' = o) (hic : ic = false)
  /-- no commit is asked for: the memid says whether the range is committed; a partly committed range is recorded as uncommitted -/
  | notAsked (htrack : hasC = true) (hcommit : commit = false) (hc : c' = c ∨ c' = mClr c idx n) (ho : o' = o) (hic : ic = bmAllSet c idx n)

/-- the fields that the stages of `mi_arena_try_alloc_at` between the claim and the commit stage (purge and dirty bitmaps) leave
    alone, and so does a purge that `mi_arena_schedule_purge` only registers -/
structure Core (σ τ : ArSt) : Prop where
  inuse : τ.inuse = σ.inuse
  committed : τ.committed = σ.committed
  os : τ.os = σ.os
  hasC : τ.hasCommitted = σ.hasCommitted
  start : τ.start = σ.start

/-- `mi_arena_try_alloc_at` once the claim of the range has succeeded (the argument `true`) -/
theorem alloc_spec (σ : ArSt) (n : Int) (commit : Bool) (idx : Int) (ok cz : Bool) :
    ∃ τ m, mi_arena_try_alloc_at σ n commit true idx ok cz = (τ, some (idx, m)) ∧ τ.inuse = mSet σ.inuse idx n ∧
      AllocCase σ.hasCommitted σ.committed σ.os n commit idx ok τ.committed τ.os m.initially_committed := by
  unfold mi_arena_try_alloc_at
  rw [if_neg (by decide)]
  extract_lets s1 p m0 m1 s1p jp s2 m2 az s2d m2z jd s3 m3 m3c ac0 anyu alr allz s3c csz stat cz0 r s4 m3f s4u m3z m3n s3u jc s5 m5
  have c2 : Core s1 s2 := iteInduction (motive := fun j : ArSt × MemId => Core s1 j.1) (fun _ => ⟨rfl, rfl, rfl, rfl, rfl⟩) (fun _ => ⟨rfl, rfl, rfl, rfl, rfl⟩)
  clear_value s2 m2
  have c3 : Core s1 s3 := iteInduction (motive := fun j : ArSt × MemId => Core s1 j.1) (fun _ => ⟨c2.inuse, c2.committed, c2.os, c2.hasC, c2.start⟩) (fun _ => c2)
  clear_value s3 m3
  -- the commit stage, relative to the state `s3` it starts from
  have hb : blocksOf s3c p csz = (idx, n) := blocksOf_start s1 s3c c3.start idx n
  let P : ArSt × MemId → Prop := fun j => j.1.inuse = s3.inuse ∧
    AllocCase s3.hasCommitted s3.committed s3.os n commit idx ok j.1.committed j.1.os j.2.initially_committed
  have key : P jc := by
    refine iteInduction (motive := P) (fun h => ?_) fun h => ?_
    · exact ⟨rfl, .untracked (by simpa using h) rfl rfl rfl⟩
    · have hC : s3.hasCommitted = true := by simpa using h
      refine iteInduction (motive := P) (fun hc => ?_) fun hc => ?_
      · refine iteInduction (motive := P) (fun ha => ?_) fun ha => ?_
        · cases ok
          · exact iteInduction (motive := P) (fun _ => ⟨rfl, .refused hC hc ha rfl rfl rfl rfl⟩)
              (fun hr => absurd rfl hr)
          · have hos : s4.os = mSet s3.os idx n := by show mSet s3c.os (blocksOf s3c p csz).1 (blocksOf s3c p csz).2 = _; rw [hb]
            have : P (s4, m3c) := ⟨rfl, .granted hC hc ha rfl rfl hos rfl⟩
            exact iteInduction (motive := P) (fun hr => (Bool.false_ne_true hr).elim) fun _ => iteInduction (motive := P) (fun _ => this) (fun _ => this)
        · exact ⟨rfl, .committed hC hc (by simpa using ha) rfl rfl rfl⟩
      · have hc' : commit = false := by simpa using hc
        exact iteInduction (motive := P) (fun _ => ⟨rfl, .notAsked hC hc' (Or.inr rfl) rfl rfl⟩)
          (fun _ => ⟨rfl, .notAsked hC hc' (Or.inl rfl) rfl rfl⟩)
  refine ⟨s5, m5, rfl, key.1.trans c3.inuse, ?_⟩
  have := key.2
  rw [c3.hasC, c3.committed, c3.os] at this
  exact this

theorem alloc_case {σ : ArSt} {n : Int} {commit : Bool} {idx : Int} {ok cz : Bool} {b : Int} {m : MemId}
    (hres : (mi_arena_try_alloc_at σ n commit true idx ok cz).2 = some (b, m)) :
    AllocCase σ.hasCommitted σ.committed σ.os n commit idx ok (mi_arena_try_alloc_at σ n commit true idx ok cz).1.committed
      (mi_arena_try_alloc_at σ n commit true idx ok cz).1.os m.initially_committed := by
  obtain ⟨τ, m', he, -, hcase⟩ := alloc_spec σ n commit idx ok cz
  rw [he] at hres ⊢
  obtain rfl : m' = m := by injection hres with e; injection e
  exact hcase

section
variable {hasC : Bool} {c o : Mask} {n : Int} {commit : Bool} {idx : Int} {ok : Bool} {c' o' : Mask} {ic : Bool}
  (h : AllocCase hasC c o n commit idx ok c' o' ic) {k : Nat}
include h

theorem AllocCase.committed_off (hr : inRange idx n k = false) : c' k = c k := by
  match h with
  | .untracked (hc := hc) .. => rw [hc]
  | .committed (hc := hc) .. | .granted (hc := hc) .. => rw [hc]; exact mSet_out hr
  | .refused (hc := hc) .. => rw [hc]; exact (mClr_out hr).trans (mSet_out hr)
  | .notAsked (hc := hc) .. =>
    rcases hc with hc | hc <;> rw [hc]
    exact mClr_out hr

theorem AllocCase.os_mono (hk : o k = true) : o' k = true := by
  match h with
  | .granted (ho := ho) .. => rw [ho]; exact mSet_of hk
  | .untracked (ho := ho) .. | .committed (ho := ho) .. | .refused (ho := ho) .. | .notAsked (ho := ho) .. => rw [ho]; exact hk

end

/-! ### mi_arena_purge, mi_arena_schedule_purge, _mi_arena_free -/

/-- the invariant relative to a set `R` of blocks that are about to be released: free blocks *and the blocks of `R`* recorded as committed are accessible -/
def AInvR (R : Nat → Bool) (σ : ArSt) : Prop := ∀ k, (σ.inuse k = false ∨ R k = true) → σ.committed k = true → σ.os k = true

theorem AInvR_of (σ : ArSt) (h : AInvG σ) : AInvR (fun _ => false) σ := fun k hk => h k (hk.resolve_right Bool.false_ne_true)
theorem AInvG_of (σ : ArSt) (h : AInvR (fun _ => false) σ) : AInvG σ := fun k hk hc => h k (Or.inl hk) hc

/-- the effect of an arena purge with the answers `nr` (a re-commit is needed) and `g` (access really revoked) of the OS layer -/
def PurgedBy (σ : ArSt) (idx n : Int) (nr g : Bool) (τ : ArSt) : Prop :=
  τ.inuse = σ.inuse ∧ τ.committed = (if nr then mClr σ.committed idx n else σ.committed) ∧ τ.os = (if g then mClr σ.os idx n else σ.os)

theorem PurgedBy.frame {σ τ : ArSt} {idx n : Int} {nr g : Bool} (h : PurgedBy σ idx n nr g τ) {k : Nat} (hk : inRange idx n k = false) :
    τ.os k = σ.os k ∧ τ.committed k = σ.committed k ∧ τ.inuse k = σ.inuse k := by
  obtain ⟨hu, hc, ho⟩ := h
  rw [hu, hc, ho, mClr_eq, mClr_eq]
  exact ⟨clear_out g hk, clear_out nr hk, rfl⟩

theorem PurgedBy.invR {σ τ : ArSt} {idx n : Int} {nr g : Bool} (h : PurgedBy σ idx n nr g τ) (hon : g = true → nr = true)
    {R : Nat → Bool} (hσ : AInvR R σ) : AInvR R τ := by
  obtain ⟨hu, hc, ho⟩ := h
  intro k
  rw [hu, hc, ho, mClr_eq, mClr_eq]
  exact fun hk => clear_pt hon (hσ k hk)

/-- `mi_arena_purge` has two call sites of the OS purge, each with its own pair of answers -/
theorem purge_spec (σ : ArSt) (idx n : Int) (nr1 g1 nr2 g2 : Bool) :
    PurgedBy σ idx n nr1 g1 (mi_arena_purge σ idx n nr1 g1 nr2 g2) ∨ PurgedBy σ idx n nr2 g2 (mi_arena_purge σ idx n nr1 g1 nr2 g2) := by
  have hb : blocksOf σ (blockStart σ idx) (n * 33554432) = (idx, n) := blocksOf_start σ σ rfl idx n
  have site : ∀ nr g, PurgedBy σ idx n nr g
      (if (osPurge σ (blockStart σ idx) (n * 33554432) nr g).2 = true then
        { (osPurge σ (blockStart σ idx) (n * 33554432) nr g).1 with purge := mClr σ.purge idx n, committed := mClr σ.committed idx n }
       else { (osPurge σ (blockStart σ idx) (n * 33554432) nr g).1 with purge := mClr σ.purge idx n }) := by
    intro nr g
    unfold osPurge
    rw [hb]
    cases nr <;> exact ⟨rfl, rfl, rfl⟩
  unfold mi_arena_purge
  extract_lets sz p a3 a4 r1 t1 n5 r2 t2 n6 j t nr t' t''
  have hj : j = osPurge σ p sz nr1 g1 ∨ j = osPurge σ p sz nr2 g2 :=
    iteInduction (motive := fun j : ArSt × Bool => j = _ ∨ j = _) (fun _ => Or.inl rfl) (fun _ => Or.inr rfl)
  clear_value j
  rcases hj with rfl | rfl
  · exact Or.inl (site nr1 g1)
  · exact Or.inr (site nr2 g2)

theorem gen_purge_invR {R : Nat → Bool} {σ : ArSt} {idx n : Int} {nr1 g1 nr2 g2 : Bool} (hon1 : g1 = true → nr1 = true)
    (hon2 : g2 = true → nr2 = true) (h : AInvR R σ) : AInvR R (mi_arena_purge σ idx n nr1 g1 nr2 g2) :=
  (purge_spec σ idx n nr1 g1 nr2 g2).elim (fun hp => hp.invR hon1 h) (fun hp => hp.invR hon2 h)

theorem schedule_spec (σ : ArSt) (idx n delay : Int) (pre nr1 g1 nr2 g2 : Bool) (now : Int) :
    mi_arena_schedule_purge σ idx n delay pre nr1 g1 nr2 g2 now = mi_arena_purge σ idx n nr1 g1 nr2 g2 ∨
    Core σ (mi_arena_schedule_purge σ idx n delay pre nr1 g1 nr2 g2 now) := by
  unfold mi_arena_schedule_purge
  let P : ArSt → Prop := fun τ => τ = mi_arena_purge σ idx n nr1 g1 nr2 g2 ∨ Core σ τ
  refine iteInduction (motive := P) (fun _ => Or.inr ⟨rfl, rfl, rfl, rfl, rfl⟩) fun _ => ?_
  refine iteInduction (motive := P) (fun _ => Or.inl rfl) fun _ => ?_
  refine iteInduction (motive := P) (fun _ => ?_) (fun _ => Or.inr ⟨rfl, rfl, rfl, rfl, rfl⟩)
  refine Or.inr ?_
  exact iteInduction (motive := fun τ : ArSt => Core σ { τ with purge := mSet τ.purge idx n }) (fun _ => ⟨rfl, rfl, rfl, rfl, rfl⟩) (fun _ => ⟨rfl, rfl, rfl, rfl, rfl⟩)

theorem gen_schedule_invR {R : Nat → Bool} {σ : ArSt} {idx n delay : Int} {pre nr1 g1 nr2 g2 : Bool} {now : Int}
    (hon1 : g1 = true → nr1 = true) (hon2 : g2 = true → nr2 = true) (h : AInvR R σ) :
    AInvR R (mi_arena_schedule_purge σ idx n delay pre nr1 g1 nr2 g2 now) := by
  rcases schedule_spec σ idx n delay pre nr1 g1 nr2 g2 now with e | c
  · rw [e]; exact gen_purge_invR hon1 hon2 h
  · intro k; rw [c.inuse, c.committed, c.os]; exact h k

end C07A
