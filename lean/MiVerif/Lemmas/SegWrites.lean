import MiVerif.Lemmas.SegRepr
/-! what each write operation of segment.c does to the slice entries: where it writes (`_eqOutside`) and that the span it
    writes is well formed (`_ok`); the two together say what it does to the invariant with a hole (`Hole.spanFree_right`,
    `Hole.spanAllocate_left`) -/
namespace SegM

theorem queueDelete_get (g : Seg) (i j : Nat) (hi : i < g.slices.size) :
    get (queueDelete g i) j = if i = j then { get g i with bs := 1 } else get g j :=
  get_set _ _ _ _ hi

@[simp] theorem queueDelete_entries (g : Seg) (i : Nat) : (queueDelete g i).entries = g.entries := rfl
@[simp] theorem queueDelete_size (g : Seg) (i : Nat) : (queueDelete g i).slices.size = g.slices.size := set_size _ _ _

theorem queueDelete_eqOutside {a b i : Nat} {g : Seg} (ha : a ≤ i) (hb : i < b) : EqOutside a b g (queueDelete g i) :=
  queues_eqOutside.trans (set_eqOutside ha hb)

theorem queueDelete_get_ne (g : Seg) {i j : Nat} (h : i ≠ j) : get (queueDelete g i) j = get g j := get_set_ne _ _ h

theorem sliceFirst_queueDelete (g : Seg) {i j : Nat} (h : i ≠ j) : sliceFirst (queueDelete g i) j = sliceFirst g j := by
  unfold sliceFirst; rw [queueDelete_get_ne g h]

theorem queuePush_eqOutside {a b i c : Nat} {g : Seg} (ha : a ≤ i) (hb : i < b) : EqOutside a b g (queuePush g i c) :=
  queues_eqOutside.trans (set_eqOutside ha hb)

theorem queuePush_get (g : Seg) (i c j : Nat) (hi : i < g.slices.size) :
    get (queuePush g i c) j = if i = j then { get g i with bs := 0 } else get g j :=
  get_set _ _ _ _ hi

theorem spanFree_succ (g : Seg) (s l : Nat) (hfit : s + l ≤ g.entries) :
    spanFree g s (l + 1) =
      let g1 := set g s { get g s with count := l + 1, off := 0 }
      queuePush (if 0 < l then set g1 (s + l) { count := 0, off := l, bs := 0 } else g1) s (l + 1) := by
  unfold spanFree
  simp only [Nat.succ_ne_zero, if_false, set_entries, Nat.add_sub_cancel, show s + (l + 1) - 1 = s + l from rfl, Nat.min_eq_left hfit,
    gt_iff_lt, Nat.lt_add_left_iff_pos]

/-- state after `spanFree` (c > 0, span inside the segment), pointwise: first entry, last entry, rest unchanged -/
theorem spanFree_get (g : Seg) (s c j : Nat) (hc : 0 < c) (hfit : s + c ≤ g.entries)
    (hsz : g.slices.size = g.entries + 1) :
    get (spanFree g s c) j =
      if j = s then { count := c, off := 0, bs := 0 }
      else if j = s + c - 1 then { count := 0, off := c - 1, bs := 0 }
      else get g j := by
  obtain ⟨l, rfl⟩ := Nat.exists_eq_add_one.mpr hc
  have hs : s < g.slices.size := by omega
  have hl : s + l < g.slices.size := by omega
  rw [spanFree_succ g s l (by omega)]
  simp only [Nat.add_sub_cancel, show s + (l + 1) - 1 = s + l from rfl, eq_comm (a := j)]
  -- the writes read back, last first: `bs := 0` at the head when the span goes on its queue, the last entry, the head
  by_cases h0 : 0 < l
  · rw [if_pos h0, queuePush_get _ _ _ _ (by simpa using hs), get_set_ne _ _ (by omega), get_set_self g s _ hs,
      get_set _ _ j _ (by simpa using hl)]
    split
    · rfl
    · rw [get_set_ne g _ ‹_›]
  · obtain rfl : l = 0 := by omega
    rw [if_neg h0, queuePush_get _ _ _ _ (by simpa using hs), get_set_self g s _ hs]
    split
    · rfl
    · rw [get_set_ne g _ ‹_›, if_neg ‹_›]

theorem spanFree_ok (g : Seg) (s c : Nat) (hc : 0 < c) (hfit : s + c ≤ g.entries)
    (hsz : g.slices.size = g.entries + 1) : SpanOk (spanFree g s c) (s, c, false) :=
  .of_free (by rw [spanFree_get g s c s hc hfit hsz, if_pos rfl]) fun hc1 => by
    rw [spanFree_get g s c _ hc hfit hsz, if_neg (by omega), if_pos rfl]

theorem spanFree_eqOutside {a b : Nat} (g : Seg) (s c : Nat) (hc : 0 < c) (hfit : s + c ≤ g.entries) (ha : a ≤ s) (hb : s + c ≤ b) :
    EqOutside a b g (spanFree g s c) := by
  obtain ⟨l, rfl⟩ := Nat.exists_eq_add_one.mpr hc
  rw [spanFree_succ g s l (by omega)]
  refine EqOutside.trans ?_ (queuePush_eqOutside ha (by omega))
  split
  · exact (set_eqOutside ha (by omega)).trans (set_eqOutside (by omega) (by omega))
  · exact set_eqOutside ha (by omega)

/-- frame: a span disjoint from `[s, s + c)` keeps its entries -/
theorem spanFree_frame (g : Seg) (s c : Nat) (hc : 0 < c) (hfit : s + c ≤ g.entries)
    (hsz : g.slices.size = g.entries + 1) (y : Span) (hy0 : 0 < y.2.1)
    (hdis : y.1 + y.2.1 ≤ s ∨ s + c ≤ y.1) (hok : SpanOk g y) : SpanOk (spanFree g s c) y :=
  have _ := hsz
  (spanFree_eqOutside g s c hc hfit (Nat.le_refl _) (Nat.le_refl _)).spanOk hy0 hdis hok

/-- the follower-setting loop of `spanAllocate` -/
def setFollowers (g : Seg) (idx n : Nat) : Seg :=
  (List.range n).foldl (fun g k => let i := k + 1; set g (idx + i) { get g (idx + i) with off := i, count := 0, bs := 1 }) g

theorem setFollowers_succ (g : Seg) (idx n : Nat) : setFollowers g idx (n + 1) =
    set (setFollowers g idx n) (idx + (n + 1)) { get (setFollowers g idx n) (idx + (n + 1)) with off := n + 1, count := 0, bs := 1 } := by
  unfold setFollowers
  rw [List.range_succ, List.foldl_append]
  rfl

theorem setFollowers_eqOutside {a b : Nat} (g : Seg) (idx n : Nat) (ha : a ≤ idx + 1) (hb : idx + n < b) :
    EqOutside a b g (setFollowers g idx n) := by
  induction n with
  | zero => exact EqOutside.refl a b g
  | succ n ih => rw [setFollowers_succ]; exact (ih (by omega)).trans (set_eqOutside (by omega) hb)

theorem setFollowers_entries (g : Seg) (idx n : Nat) : (setFollowers g idx n).entries = g.entries :=
  (setFollowers_eqOutside (a := 0) (b := idx + n + 1) g idx n (by omega) (by omega)).entries

theorem setFollowers_size (g : Seg) (idx n : Nat) : (setFollowers g idx n).slices.size = g.slices.size :=
  (setFollowers_eqOutside (a := 0) (b := idx + n + 1) g idx n (by omega) (by omega)).size

theorem setFollowers_inside (g : Seg) (idx n k : Nat) (hb : idx + n < g.slices.size) (hk1 : 1 ≤ k) (hk : k ≤ n) :
    get (setFollowers g idx n) (idx + k) = { count := 0, off := k, bs := 1 } := by
  induction n with
  | zero => omega
  | succ n ih =>
    rw [setFollowers_succ, get_set _ _ _ _ (by rw [setFollowers_size]; exact hb)]
    split
    · rw [Nat.add_left_cancel ‹idx + (n + 1) = idx + k›]
    · exact ih (by omega) (by omega)

theorem spanAllocate_succ (g : Seg) (s l : Nat) (hfit : s + l < g.entries) :
    spanAllocate g s (l + 1) =
      let g2 := setFollowers (set g s { count := l + 1, off := 0, bs := (l + 1) * 65536 }) s (min l 255)
      let g3 := if 0 < l then set g2 (s + l) { count := 0, off := l, bs := 1 } else g2
      { g3 with used := g3.used + 1 } := by
  have hextra : ¬ s + min l 255 ≥ g.entries := Nat.not_le_of_lt (Nat.lt_of_le_of_lt (Nat.add_le_add_left (Nat.min_le_left l 255) s) hfit)
  unfold spanAllocate maxOffsetCount
  have he := setFollowers_entries
  unfold setFollowers at he ⊢
  simp only [set_entries, he, Nat.add_sub_cancel, show s + (l + 1) - 1 = s + l from rfl, hextra, if_false, Nat.min_eq_left (Nat.le_of_lt hfit),
    Nat.add_sub_cancel_left, gt_iff_lt, Nat.lt_add_right_iff_pos]

theorem spanAllocate_eqOutside {a b : Nat} (g : Seg) (s c : Nat) (hc : 0 < c) (hfit : s + c ≤ g.entries) (ha : a ≤ s) (hb : s + c ≤ b) :
    EqOutside a b g (spanAllocate g s c) := by
  obtain ⟨l, rfl⟩ := Nat.exists_eq_add_one.mpr hc
  rw [spanAllocate_succ g s l (by omega)]
  have w : EqOutside a b g (setFollowers (set g s { count := l + 1, off := 0, bs := (l + 1) * 65536 }) s (min l 255)) :=
    (set_eqOutside ha (by omega)).trans (setFollowers_eqOutside _ s _ (by omega) (by omega))
  refine EqOutside.trans ?_ used_eqOutside
  split
  · exact w.trans (set_eqOutside (by omega) (by omega))
  · exact w

/-- the last write of `spanAllocate`: the last entry of the span becomes a follower too (it is one already if the span has at most
    256 slices) -/
theorem SpanOk.of_followers {g : Seg} {s l b : Nat} (hb : 0 < b) (hl : s + l < g.slices.size)
    (h0 : get g s = { count := l + 1, off := 0, bs := b })
    (hf : ∀ k, 1 ≤ k → k ≤ min l 255 → get g (s + k) = { count := 0, off := k, bs := 1 }) :
    SpanOk (if 0 < l then set g (s + l) { count := 0, off := l, bs := 1 } else g) (s, l + 1, true) := by
  split
  · refine .of_used hb ((get_set_ne g _ (by omega)).trans h0) fun k hk1 hk => ?_
    rw [get_set g _ _ _ hl]
    split
    · rw [Nat.add_left_cancel ‹s + l = s + k›]
    · exact hf k hk1 (by omega)
  · exact .of_used hb h0 fun k hk1 hk => hf k hk1 (by omega)

theorem spanAllocate_ok (g : Seg) (s c : Nat) (hc : 0 < c) (hfit : s + c ≤ g.entries)
    (hsz : g.slices.size = g.entries + 1) : SpanOk (spanAllocate g s c) (s, c, true) := by
  obtain ⟨l, rfl⟩ := Nat.exists_eq_add_one.mpr hc
  rw [spanAllocate_succ g s l (by omega)]
  generalize hg1 : set g s { count := l + 1, off := 0, bs := (l + 1) * 65536 } = g1
  have hsz1 : g1.slices.size = g.entries + 1 := by rw [← hg1, set_size, hsz]
  have hhead : get g1 s = { count := l + 1, off := 0, bs := (l + 1) * 65536 } := by rw [← hg1, get_set_self g s _ (by omega)]
  have hbs : 0 < (l + 1) * 65536 := Nat.mul_pos (Nat.succ_pos l) (by decide)
  -- the followers are written above the head and leave it as it is
  have w := setFollowers_eqOutside (a := s + 1) (b := g.entries) g1 s (min l 255) (Nat.le_refl _) (by omega)
  have hok := SpanOk.of_followers hbs (by rw [w.size, hsz1]; omega) ((w.outside s (.inl (Nat.lt_succ_self s))).trans hhead)
    fun k => setFollowers_inside g1 s (min l 255) k (by omega)
  -- the `used` counter is not looked at
  exact hok.congr (Nat.succ_pos l) fun _ _ _ => rfl

/-- frame: spans disjoint from `[s, s+c)` keep their entries -/
theorem spanAllocate_frame (g : Seg) (s c : Nat) (hc : 0 < c) (hfit : s + c ≤ g.entries)
    (hsz : g.slices.size = g.entries + 1) (y : Span) (hy0 : 0 < y.2.1)
    (hdis : y.1 + y.2.1 ≤ s ∨ s + c ≤ y.1) (hok : SpanOk g y) : SpanOk (spanAllocate g s c) y :=
  have _ := hsz
  (spanAllocate_eqOutside g s c hc hfit (Nat.le_refl _) (Nat.le_refl _)).spanOk hy0 hdis hok

variable {g : Seg} {pre post : List Span} {a a' b b' n : Nat}

theorem Hole.spanFree_right (H : Hole g pre post a b) (hn : 0 < n) (ha : a ≤ b') (hb : b' + n = b) :
    Hole (spanFree g b' n) pre ((b', n, false) :: post) a b' := by
  have hfit : b' + n ≤ g.entries := hb ▸ H.fit
  exact (H.write (spanFree_eqOutside g b' n hn hfit ha (Nat.le_of_eq hb))).shrink_right hn hb (spanFree_ok g b' n hn hfit H.size)

theorem Hole.spanFree (H : Hole g pre post a b) (hn : 0 < n) (hb : a + n = b) : Repr (spanFree g a n) (pre ++ (a, n, false) :: post) :=
  (H.spanFree_right hn (Nat.le_refl a) hb).closed

theorem Hole.spanAllocate_left (H : Hole g pre post a b) (hn : 0 < n) (ha : a + n = a') (hb : a' ≤ b) :
    Hole (spanAllocate g a n) (pre ++ [(a, n, true)]) post a' b := by
  have hfit : a + n ≤ g.entries := ha ▸ Nat.le_trans hb H.fit
  exact (H.write (spanAllocate_eqOutside g a n hn hfit (Nat.le_refl a) (ha ▸ hb))).shrink_left hn ha (spanAllocate_ok g a n hn hfit H.size)

theorem Hole.spanAllocate (H : Hole g pre post a b) (hn : 0 < n) (hb : a + n = b) : Repr (spanAllocate g a n) (pre ++ (a, n, true) :: post) :=
  List.append_cons .. ▸ (H.spanAllocate_left hn hb (Nat.le_refl b)).closed

end SegM
