import MiVerif.Gen.Loops
import MiVerif.Lemmas.Control
import MiVerif.Lemmas.Word
/-! `_mi_commit_mask_committed_size` as regenerated from src/segment.c (a `for` loop over the eight fields with a bit-counting `for`
    loop inside): its exact value (`committed_size_eq`), from which Props/C07 has that it reports the whole size only for a full mask. -/
namespace CSizeL
open GenL

abbrev M : Nat := 18446744073709551616

/-- number of set bits among the low `n` bits -/
def pc : Nat → Nat → Nat
  | 0, _ => 0
  | n + 1, m => m % 2 + pc n (m / 2)

theorem pc_zero (n : Nat) : pc n 0 = 0 := by
  induction n with
  | zero => rfl
  | succ n ih => simp [pc, ih]

theorem pc_le (n m : Nat) : pc n m ≤ n := by
  induction n generalizing m with
  | zero => simp [pc]
  | succ n ih =>
    have := ih (m / 2)
    have := Nat.mod_lt m (by decide : 0 < 2)
    simp only [pc]
    omega

theorem pc_full (n m : Nat) (hm : m < 2^n) (h : pc n m = n) : m = 2^n - 1 := by
  induction n generalizing m with
  | zero => simp at hm; omega
  | succ n ih =>
    simp only [pc] at h
    have h1 := pc_le n (m / 2)
    have hdiv : m / 2 < 2^n := by
      rw [Nat.pow_succ] at hm; omega
    have := ih (m / 2) hdiv (by omega)
    rw [Nat.pow_succ]
    have hp : 0 < 2^n := Nat.two_pow_pos n
    omega

/-- the bit-counting loop adds the number of set bits -/
theorem inner_exact {c : Nat × Nat → Bool} {body : Nat × Nat → Nat × Nat}
    (hc : ∀ s, c s = decide (s.2 ≠ 0))
    (hbody : ∀ s, body s = ((if (s.2 &&& 1) ≠ 0 then (((s.1 + 1)) % M) else s.1), s.2 / 2^1)) :
    ∀ {n fuel count mask : Nat}, mask < 2^n → n ≤ fuel → count + n < M →
      (whileN fuel c body (count, mask)).1 = count + pc n mask := by
  have key := whileN_rec (c := c) (body := body) (fun n s t => s.2 < 2^n → s.1 + n < M → t.1 = s.1 + pc n s.2) ?_ ?_ ?_
  · exact fun {n fuel count mask} hm hf hcnt => key n fuel (count, mask) hf hm hcnt
  · intro n s hs _ _
    have h0 : s.2 = 0 := by simpa [hc] using hs
    rw [h0, pc_zero, Nat.add_zero]
  · intro s t hs h0
    have : s.2 ≠ 0 := by simpa [hc] using hs
    omega
  · intro n ⟨count, mask⟩ t _ ih hm hcnt
    simp only [hbody, Nat.pow_one, Nat.and_one_is_mod] at ih hm hcnt ⊢
    have hM : M = 18446744073709551616 := rfl   -- `omega` does not unfold the abbreviation
    have hdiv : mask / 2 < 2^n := by rw [Nat.pow_succ] at hm; omega
    rw [pc]
    split at ih
    · rw [Nat.mod_eq_of_lt (by omega)] at ih
      rw [ih hdiv (by omega)]; omega
    · rw [ih hdiv (by omega)]; omega

def sumFrom (g : Nat → Nat) : Nat → Nat → Nat
  | _, 0 => 0
  | i, k + 1 => g i + sumFrom g (i + 1) k

theorem sumFrom_le (g : Nat → Nat) (hg : ∀ i, g i ≤ 64) : ∀ k i, sumFrom g i k ≤ 64 * k := by
  intro k
  induction k with
  | zero => intro i; simp [sumFrom]
  | succ k ih =>
    intro i
    have := ih (i + 1)
    have := hg i
    simp only [sumFrom]
    omega

theorem sumFrom_full_iff (g : Nat → Nat) (hg : ∀ i, g i ≤ 64) : ∀ k i, sumFrom g i k = 64 * k ↔ ∀ j, i ≤ j → j < i + k → g j = 64 := by
  intro k
  induction k with
  | zero => intro i; exact ⟨fun _ j h1 h2 => by omega, fun _ => rfl⟩
  | succ k ih =>
    intro i
    have hle := sumFrom_le g hg k (i + 1)
    have hgi := hg i
    simp only [sumFrom]
    constructor
    · intro h j h1 h2
      by_cases hj : j = i
      · subst hj; omega
      · exact (ih (i + 1)).1 (by omega) j (by omega) (by omega)
    · intro h
      rw [(ih (i + 1)).2 (fun j h1 h2 => h j (by omega) (by omega)), h i (Nat.le_refl _) (by omega)]
      omega

/-- the address of field `i` as the generated code computes it -/
def fieldAddr (cm i : Nat) : Nat := ((((cm + 0) % M) + i * 8) % M)

/-- contribution of one field: 64 for a full field, else the number of set bits -/
def contrib (ld64 : Nat → Nat) (cm i : Nat) : Nat :=
  if ld64 (fieldAddr cm i) = 18446744073709551615 then 64 else pc 64 (ld64 (fieldAddr cm i))

theorem contrib_le (ld64 : Nat → Nat) (cm i : Nat) : contrib ld64 cm i ≤ 64 := by
  unfold contrib; split
  · exact Nat.le_refl _
  · exact pc_le 64 _

theorem contrib_full_iff (ld64 : Nat → Nat) (cm i : Nat) (hw : ld64 (fieldAddr cm i) < M) :
    contrib ld64 cm i = 64 ↔ ld64 (fieldAddr cm i) = 18446744073709551615 := by
  unfold contrib
  split
  · exact iff_of_true rfl ‹_›
  · exact ⟨fun h => pc_full 64 _ hw h, fun h => absurd h ‹_›⟩

/-- the branch in the body of the outer loop, with the inner loop in it -/
theorem field_count {c : Nat × Nat → Bool} {body : Nat × Nat → Nat × Nat}
    (hc : ∀ s, c s = decide (s.2 ≠ 0))
    (hbody : ∀ s, body s = ((if (s.2 &&& 1) ≠ 0 then (((s.1 + 1)) % M) else s.1), s.2 / 2^1))
    {w count : Nat} (hw : w < 18446744073709551616) (hcount : count + 64 < 18446744073709551616) :
    (if (18446744073709551615 - w) % 18446744073709551616 = 0 then ((count + 64) % 18446744073709551616, w)
      else ((whileN 18446744073709551616 c body (count, w)).1, (whileN 18446744073709551616 c body (count, w)).2)).1
      = count + (if w = 18446744073709551615 then 64 else pc 64 w) := by
  by_cases hfull : w = 18446744073709551615
  · rw [if_pos (by rw [hfull]), if_pos hfull]
    exact Nat.mod_eq_of_lt hcount
  · rw [if_neg (by omega), if_neg hfull]
    exact inner_exact hc hbody hw (by decide) hcount

theorem committed_size_eq (ld64 : Nat → Nat) (cm total : Nat) (hw : ∀ i, i < 8 → ld64 (fieldAddr cm i) < M) :
    _mi_commit_mask_committed_size ld64 cm total = ((total / 512) * sumFrom (contrib ld64 cm) 0 8) % M := by
  unfold _mi_commit_mask_committed_size
  simp only []   -- reduces the `let`s of the unfolded function (`dsimp only` leaves the pattern-matching ones)
  -- the loop returns `0 + Σ`
  refine congrArg (fun x => (total / 512 * x) % M) (Eq.trans ?_ (Nat.zero_add _))
  -- on (count, i): with `k = 8 - i` fields to go the loop adds their contributions
  refine whileN_rec (fun k s t => s.2 + k = 8 → s.1 ≤ 64 * s.2 → t.1 = s.1 + sumFrom (contrib ld64 cm) s.2 k) ?_ ?_ ?_
    8 18446744073709551616 (0, 0) (by decide) rfl (Nat.le_refl _)
  · intro k s hs hk _
    have : ¬ s.2 < 8 := by simpa using hs
    obtain rfl : k = 0 := by omega
    rfl
  · intro s t hs h0
    have : s.2 < 8 := by simpa using hs
    omega
  · intro k ⟨count, i⟩ t hs ih hk hcount
    have hi : i < 8 := by simpa using hs
    have hwi : ld64 (((cm + 0) % 18446744073709551616 + i * 8) % 18446744073709551616) < 18446744073709551616 := hw i hi
    rw [Nat.mod_eq_of_lt (a := i + 1) (by omega), field_count (fun _ => rfl) (fun _ => rfl) hwi (by omega)] at ih
    have hle : contrib ld64 cm i ≤ 64 := contrib_le ld64 cm i
    rw [sumFrom, ← Nat.add_assoc]
    exact ih (by omega) (Nat.le_trans (Nat.add_le_add hcount hle) (Nat.le_of_eq (Nat.mul_succ 64 i).symm))

end CSizeL
