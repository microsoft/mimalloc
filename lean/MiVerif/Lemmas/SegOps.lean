import MiVerif.Lemmas.SegWrites
/-! The operations on a segment keep `Repr`.  Freeing a page, `mi_segment_span_free_coalesce`: which of its four paths is taken
    (`coalesce_none/next/prev/both`); each ends in `spanFree` over the merged range after writes inside that range (`Hole.spanFree`), so it
    keeps `Repr`: `coalesce_next_repr` here, the other three cases in Props/C01.  The tests the function makes on the neighbours of a span
    are determined by the invariant (`coNext_eq … coPrev_true`), so freeing any page keeps it without side conditions on what the code reads.
    Allocating a page inside a free span (`allocAt`, the tail of mi_segments_page_find_and_allocate: take the span off its queue, split off
    the remainder, mark the page).  With the fresh segment (`init_repr`) and the operations `SegOp` / `segStep` / `SegOpsOk` at the end, this
    is what Props/C01 states reachability over. -/
namespace SegM

/-- the two neighbour tests of `coalesce` (is the next / the previous span free?), as functions of what they read -/
def coNext (g : Seg) (idx : Nat) : Bool :=
  decide (idx + (get g idx).count < g.entries ∧ (get g (idx + (get g idx).count)).bs = 0)
def coPrev (g : Seg) (idx : Nat) : Bool :=
  decide (idx > 0 ∧ (get g (sliceFirst g (idx - 1))).bs = 0)

theorem coalesce_none (g : Seg) (idx : Nat) {c : Nat} (hn : coNext g idx = false) (hp : coPrev g idx = false)
    (hc : (get g idx).count = c) : coalesce g idx = (spanFree g idx c, idx) := by
  subst hc
  have hn := of_decide_eq_false hn
  have hp := of_decide_eq_false hp
  unfold coalesce
  simp only [hn, if_false]
  by_cases h0 : idx > 0
  · have : ¬ (get g (sliceFirst g (idx - 1))).bs = 0 := fun h => hp ⟨h0, h⟩
    simp [h0, this]
  · simp [h0]

/-- case: only the next span is free -/
theorem coalesce_next (g : Seg) (idx : Nat) (hn : coNext g idx = true) (hp : coPrev g idx = false)
    (hsz : g.slices.size = g.entries + 1) :
    coalesce g idx =
      (spanFree (queueDelete g (idx + (get g idx).count)) idx
        ((get g idx).count + (get g (idx + (get g idx).count)).count), idx) := by
  have _ := hsz
  have hn := of_decide_eq_true hn
  have hp := of_decide_eq_false hp
  unfold coalesce
  simp only [hn, and_self, if_true]
  by_cases h0 : idx > 0
  · -- the test on the predecessor reads entries below `idx`; taking the successor off its queue wrote at `idx + count`
    have hsf := sliceFirst_queueDelete g (i := idx + (get g idx).count) (j := idx - 1) (by omega)
    have hb := queueDelete_get_ne g (i := idx + (get g idx).count) (j := sliceFirst g (idx - 1)) (by unfold sliceFirst; omega)
    have : ¬ (get g (sliceFirst g (idx - 1))).bs = 0 := fun h => hp ⟨h0, h⟩
    simp only [h0, if_true, hsf, hb, this, if_false]
  · simp [h0]

theorem coalesce_prev (g : Seg) (idx : Nat) {c ps pc : Nat} (hn : coNext g idx = false) (hp : coPrev g idx = true)
    (hc : (get g idx).count = c) (hps : sliceFirst g (idx - 1) = ps) (hpc : (get g ps).count = pc) :
    coalesce g idx =
      (spanFree (queueDelete (set g idx { get g idx with count := 0, off := idx - ps }) ps) ps (c + pc), ps) := by
  subst hc hps hpc
  have hn := of_decide_eq_false hn
  have hp := of_decide_eq_true hp
  unfold coalesce
  simp only [hn, if_false, hp.1, hp.2, if_true]

theorem coalesce_both (g : Seg) (idx : Nat) {c nc ps pc : Nat} (hn : coNext g idx = true) (hp : coPrev g idx = true)
    (hc : (get g idx).count = c) (hnc : (get g (idx + c)).count = nc) (hps : sliceFirst g (idx - 1) = ps)
    (hpc : (get g ps).count = pc) (hcpos : 0 < c) :
    coalesce g idx =
      (spanFree (queueDelete (set (queueDelete g (idx + c)) idx { get g idx with count := 0, off := idx - ps }) ps) ps
        (c + nc + pc), ps) := by
  subst hc hnc hps hpc
  have hn := of_decide_eq_true hn
  have hp := of_decide_eq_true hp
  unfold coalesce
  simp only [hn, and_self, if_true]
  have hsf := sliceFirst_queueDelete g (i := idx + (get g idx).count) (j := idx - 1) (by omega)
  have hb := queueDelete_get_ne g (i := idx + (get g idx).count) (j := sliceFirst g (idx - 1)) (by unfold sliceFirst; omega)
  have hi := queueDelete_get_ne g (i := idx + (get g idx).count) (j := idx) (by omega)
  simp only [hp.1, if_true, hsf, hb, hp.2, hi]

/-- Repr is preserved when a used span with a free successor is freed: the two merge -/
theorem coalesce_next_repr (g : Seg) (pre post : List Span) (s c nc : Nat) (u : Bool)
    (hr : Repr g (pre ++ (s, c, u) :: (s + c, nc, false) :: post))
    (hn : coNext g s = true) (hp : coPrev g s = false) :
    Repr (coalesce g s).1 (pre ++ (s, c + nc, false) :: post) := by
  obtain ⟨hpre, _ | ⟨hc, _ | ⟨hnc, hpost⟩⟩⟩ := hr.chain.split_at
  rw [coalesce_next g s hn hp hr.size, hr.count (c := c) (u := u) (by simp), hr.count (c := nc) (u := false) (by simp)]
  exact hr.hole (old := [_, _]) hpre hpost
    |>.write (queueDelete_eqOutside (by omega) (by omega))
    |>.spanFree (by omega) (by omega)

theorem coNext_eq (g : Seg) (pre post : List Span) (s c ns nc : Nat) (u nu : Bool)
    (hr : Repr g (pre ++ (s, c, u) :: (ns, nc, nu) :: post)) : coNext g s = !nu := by
  obtain rfl : s + c = ns := hr.chain.prev_ends
  have hyb := hr.chain.bounds.2 (s + c, nc, nu) (by simp)
  unfold coNext
  rw [hr.count (c := c) (u := u) (by simp), ← (hr.ok (s + c, nc, nu) (by simp)).bs_eq_zero, Bool.decide_and,
    decide_eq_true (show s + c < g.entries by omega), Bool.true_and]

theorem coNext_last (g : Seg) (pre : List Span) (s c : Nat) (u : Bool) (hr : Repr g (pre ++ [(s, c, u)])) : coNext g s = false := by
  unfold coNext
  rw [hr.count (c := c) (u := u) (by simp), hr.chain.last_ends]
  exact decide_eq_false fun h => Nat.lt_irrefl _ h.1

theorem coPrev_eq (g : Seg) (pre post : List Span) (ps pc s c : Nat) (pu u : Bool)
    (hr : Repr g (pre ++ (ps, pc, pu) :: (s, c, u) :: post)) : coPrev g s = !pu := by
  obtain rfl : ps + pc = s := hr.chain.prev_ends
  obtain ⟨_, _ | ⟨hpc, _⟩⟩ := hr.chain.split_at
  have hx := hr.ok (ps, pc, pu) (by simp)
  unfold coPrev
  rw [sliceFirst_prev hpc hx, ← hx.bs_eq_zero, Bool.decide_and, decide_eq_true (Nat.add_pos_right ps hpc), Bool.true_and]

theorem coPrev_first (g : Seg) (post : List Span) (s c : Nat) (u : Bool) (hr : Repr g ((s, c, u) :: post)) : coPrev g s = false := by
  obtain rfl : s = 0 := by cases hr.chain; rfl
  exact decide_eq_false fun h => Nat.lt_irrefl 0 h.1

theorem coNext_true {g : Seg} {pre post : List Span} {s c : Nat} {u : Bool} (hr : Repr g (pre ++ (s, c, u) :: post))
    (h : coNext g s = true) : ∃ nc post', post = (s + c, nc, false) :: post' := by
  cases post with
  | nil => rw [coNext_last g pre s c u hr] at h; cases h
  | cons y post' =>
    obtain ⟨ns, nc, nu⟩ := y
    rw [coNext_eq g pre post' s c ns nc u nu hr] at h
    have hns : s + c = ns := hr.chain.prev_ends
    cases nu
    · exact ⟨nc, post', by rw [hns]⟩
    · cases h

theorem coPrev_true {g : Seg} {pre post : List Span} {s c : Nat} {u : Bool} (hr : Repr g (pre ++ (s, c, u) :: post))
    (h : coPrev g s = true) : ∃ ps pc pre', pre = pre' ++ [(ps, pc, false)] ∧ ps + pc = s := by
  rcases List.eq_nil_or_concat pre with rfl | ⟨pre', ⟨ps, pc, pu⟩, rfl⟩
  · rw [coPrev_first g post s c u hr] at h; cases h
  · rw [List.concat_eq_append] at hr ⊢
    have hr' : Repr g (pre' ++ (ps, pc, pu) :: (s, c, u) :: post) := by simpa using hr
    rw [coPrev_eq g pre' post ps pc s c pu u hr'] at h
    cases pu
    · exact ⟨ps, pc, pre', rfl, hr'.chain.prev_ends⟩
    · cases h

/-- the tail of mi_segments_page_find_and_allocate once the span at `i` has been chosen -/
def allocAt (g : Seg) (i count : Nat) : Seg :=
  let g := queueDelete g i
  let g := if (get g i).count > count then sliceSplit g i count else g
  spanAllocate g i (get g i).count

/-- what `findAndAllocate` does once the queue search has chosen span `i` is `allocAt` -/
theorem findAndAllocate_is_allocAt (g : Seg) (count i : Nat) (h : (findAndAllocate g count).2 = some i) :
    (findAndAllocate g count).1 = allocAt g i (if count = 0 then 1 else count) := by
  unfold findAndAllocate at h ⊢
  dsimp only at h ⊢
  split at h
  · cases h
  · rename_i j hj
    simp only [Option.some.injEq] at h
    subst h
    rfl

theorem Repr.queueDelete_hole {g : Seg} {pre post : List Span} {s c : Nat} (hr : Repr g (pre ++ (s, c, false) :: post)) :
    0 < c ∧ (get (queueDelete g s) s).count = c ∧ Hole (queueDelete g s) pre post s (s + c) := by
  obtain ⟨hpre, _ | ⟨hc, hpost⟩⟩ := hr.chain.split_at
  have hs : s < g.slices.size := by rw [hr.size]; have := hpost.bounds.1; omega
  refine ⟨hc, ?_, (hr.hole (old := [_]) hpre hpost).write (queueDelete_eqOutside (Nat.le_refl s) (by omega))⟩
  rw [queueDelete_get g s s hs, if_pos rfl]
  exact hr.count (u := false) (by simp)

theorem allocate_exact_repr (g : Seg) (pre post : List Span) (s c : Nat)
    (hr : Repr g (pre ++ (s, c, false) :: post)) : Repr (allocAt g s c) (pre ++ (s, c, true) :: post) := by
  obtain ⟨hc, hcnt, H⟩ := hr.queueDelete_hole
  unfold allocAt
  simp only [hcnt, Nat.lt_irrefl, if_false]
  exact H.spanAllocate hc rfl

theorem allocate_split_repr (g : Seg) (pre post : List Span) (s c k : Nat) (hk : 0 < k) (hkc : k < c)
    (hr : Repr g (pre ++ (s, c, false) :: post)) :
    Repr (allocAt g s k) (pre ++ (s, k, true) :: (s + k, c - k, false) :: post) := by
  obtain ⟨_, hcnt, H1⟩ := hr.queueDelete_hole
  unfold allocAt sliceSplit
  simp only [hcnt, hkc, if_true, Nat.not_le_of_lt hkc, if_false]
  -- the remainder `[s + k, s + c)` becomes a free span and leaves the hole; the count at `s` is set; the page fills `[s, s + k)`
  have H2 := H1.spanFree_right (b' := s + k) (n := c - k) (by omega) (by omega) (by omega)
  rw [get_set_self _ s _ (by rw [H2.size]; have := H2.fit; omega)]
  exact (H2.write (set_eqOutside (Nat.le_refl s) (by omega))).spanAllocate hk rfl

/-- a fresh segment (info slices as a used span, the rest one free span) satisfies the invariant -/
theorem init_repr (entries info : Nat) (hi : 0 < info) (hie : info < entries) :
    Repr (init entries info) [(0, info, true), (info, entries - info, false)] := by
  -- no span yet: the hole is the whole segment; the info slices leave it on the left; the rest is freed as one span
  have H0 : Hole { slices := Array.replicate (entries + 1) {}, entries := entries, used := 0, queues := Array.replicate 36 [] } [] [] 0 entries :=
    Hole.empty (by simp)
  exact H0.spanAllocate_left hi (Nat.zero_add info) (Nat.le_of_lt hie)
    |>.write used_eqOutside
    |>.spanFree (by omega) (by omega)

/-- page allocation and page free on a segment, addressed by the first slice of the span -/
inductive SegOp where
  | alloc (s k : Nat)
  | free (s : Nat)

def segStep (g : Seg) : SegOp → Seg
  | .alloc s k => allocAt g s k
  | .free s => (coalesce g s).1

/-- the operation addresses what the code addresses: the start of a free span that is large enough / the start of a span (freeing a span
    that is free already is harmless for `Repr`, which does not look at the queues; the code never does it) -/
def SegOp.enabled (g : Seg) : SegOp → Prop
  | .alloc s k => ∃ sp c, Repr g sp ∧ (s, c, false) ∈ sp ∧ 0 < k ∧ k ≤ c
  | .free s => ∃ sp c u, Repr g sp ∧ (s, c, u) ∈ sp

def SegOpsOk : Seg → List SegOp → Prop
  | _, [] => True
  | g, op :: ops => op.enabled g ∧ SegOpsOk (segStep g op) ops

end SegM
