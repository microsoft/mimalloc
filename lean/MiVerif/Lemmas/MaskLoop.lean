import MiVerif.Gen.Loops
import MiVerif.Lemmas.Control
import MiVerif.Lemmas.Word
/-! `mi_commit_mask_create` as regenerated from src/segment.c (a `while` loop over the 64-bit fields of the mask, `whileN`): the stores it
    makes into the (emptied) mask set exactly the bits `[bitidx, bitidx + bitcount)`. -/
namespace MaskL
open GenL

abbrev M : Nat := 18446744073709551616

/-- the value stored into one field: `count` ones starting at bit `ofs` (as the code computes it) -/
def fieldMask (count ofs : Nat) : Nat :=
  if count ≥ 64 then 18446744073709551615 else (((((((((1 * 2^count)) % M) + M - 1)) % M) * 2^ofs)) % M)

/-- the (field, value) pairs the loop stores, by recursion on a bound `n ≥ cnt` -/
def stores : Nat → Nat → Nat → Nat → List (Nat × Nat)
  | 0, _, _, _ => []
  | n + 1, i, ofs, cnt =>
    if cnt = 0 then [] else
      let c := if cnt > 64 - ofs then 64 - ofs else cnt
      (i, fieldMask c ofs) :: stores n (i + 1) 0 (cnt - c)

theorem stores_zero (n i ofs : Nat) : stores n i ofs 0 = [] := by
  cases n <;> simp [stores]

def toStore (cm : Nat) (p : Nat × Nat) : String × List Nat := ("store64", [cm + p.1 * 8, p.2])

theorem round_takes {cnt ofs cc : Nat} (hpos : 0 < cnt) (hofs : ofs < 64) (hcc : (if cnt > 64 - ofs then 64 - ofs else cnt) = cc) :
    1 ≤ cc ∧ ofs + cc ≤ 64 ∧ (cc = cnt ∨ ofs + cc = 64 ∧ cc < cnt) := by
  split at hcc <;> omega

theorem create_stores {α : Type} (full empty cm_in : α) (bitidx bitcount cm : Nat) (h1 : 0 < bitcount) (h2 : bitcount < 512)
    (h3 : bitidx + bitcount ≤ 512) (hcm : cm + 64 < 18446744073709551616) :
    mi_commit_mask_create full empty cm_in bitidx bitcount cm =
      (empty, (stores bitcount (bitidx / 64) (bitidx % 64) bitcount).map (toStore cm)) := by
  unfold mi_commit_mask_create
  simp only [if_neg (Nat.ne_of_lt h2), if_neg (Nat.ne_of_gt h1)]
  refine congrArg (Prod.mk empty) ?_
  -- on (eff_out, bitcount, ofs, i): with `m ≥ bitcount` rounds to go, the loop appends `stores m i ofs bitcount`
  refine whileN_rec (fun m s t => s.2.1 ≤ m → s.2.2.1 < 64 → s.2.2.2 * 64 + s.2.2.1 + s.2.1 ≤ 512 →
      t.1 = s.1 ++ (stores m s.2.2.2 s.2.2.1 s.2.1).map (toStore cm)) ?_ ?_ ?_ bitcount _ ([], bitcount, bitidx % 64, bitidx / 64)
      (by omega) (Nat.le_refl _) (Nat.mod_lt _ (by decide)) (by show bitidx / 64 * 64 + bitidx % 64 + bitcount ≤ 512; omega)
  · intro m s hs _ _ _
    have h0 : s.2.1 = 0 := by simpa using hs
    rw [h0, stores_zero, List.map_nil, List.append_nil]
  · intro s t hs h0
    have : s.2.1 > 0 := by simpa using hs
    omega
  · intro m ⟨eff, cnt, ofs, i⟩ t hs ih hm hofs hfit
    have hpos : 0 < cnt := by simpa using hs
    simp only [Word.wrap_sub (Nat.le_of_lt hofs) (by decide : 64 < 18446744073709551616)] at ih
    dsimp only at hm hofs hfit ⊢
    rw [stores, if_neg (Nat.ne_of_gt hpos)]
    generalize hcdef : (if cnt > 64 - ofs then 64 - ofs else cnt) = cc at ih ⊢
    obtain ⟨hle, hm', hfit', hi⟩ : cc ≤ cnt ∧ cnt - cc ≤ m ∧ (i + 1) * 64 + (cnt - cc) ≤ 512 ∧ i < 8 := by
      have := round_takes hpos hofs hcdef
      omega
    rw [Word.wrap_sub hle (by omega : cnt < 18446744073709551616), Nat.mod_eq_of_lt (a := i + 1) (by omega), Nat.add_zero cm,
      Nat.mod_eq_of_lt (a := cm) (by omega), Nat.mod_eq_of_lt (a := cm + i * 8) (by omega)] at ih
    -- (the new offset is 0; `rw` says so, or the unifier unfolds `(i + 1) * 64` to see it)
    rw [ih hm' (by decide) (by rw [Nat.add_zero]; exact hfit')]
    simp only [List.map_cons, List.append_assoc, List.singleton_append, toStore, fieldMask]

theorem fieldMask_eq (c ofs : Nat) (hfit : ofs + c ≤ 64) : fieldMask c ofs = (2^c - 1) * 2^ofs :=
  Word.ones_shl_wrap c ofs hfit

theorem fieldMask_bit (c ofs j : Nat) (hc : 1 ≤ c) (hfit : ofs + c ≤ 64) (hj : j < 64) :
    (fieldMask c ofs).testBit j = decide (ofs ≤ j ∧ j < ofs + c) := by
  have _ := hc; have _ := hj  -- (not needed)
  rw [fieldMask_eq c ofs hfit, Word.testBit_ones_shl]

/-- the value the stores leave in field `w` (a later store wins; `none`: the field is untouched, i.e. still empty) -/
def fieldAfter (l : List (Nat × Nat)) (w : Nat) : Option Nat :=
  l.foldl (fun acc p => if p.1 = w then some p.2 else acc) none

def bitAfter (l : List (Nat × Nat)) (k : Nat) : Bool :=
  match fieldAfter l (k / 64) with
  | some m => m.testBit (k % 64)
  | none => false

theorem foldl_skip {w : Nat} : ∀ {n i ofs cnt : Nat} {acc : Option Nat}, w < i →
    (stores n i ofs cnt).foldl (fun acc p => if p.1 = w then some p.2 else acc) acc = acc := by
  intro n
  induction n with
  | zero => intro i ofs cnt acc _; rfl
  | succ n ih =>
    intro i ofs cnt acc hw
    unfold stores
    by_cases h0 : cnt = 0
    · rw [if_pos h0]; rfl
    · rw [if_neg h0]
      simp only [List.foldl_cons]
      rw [if_neg (by omega), ih (by omega)]

theorem bitAfter_stores (k : Nat) : ∀ (n i ofs cnt : Nat), cnt ≤ n → ofs < 64 →
    bitAfter (stores n i ofs cnt) k = decide (i * 64 + ofs ≤ k ∧ k < i * 64 + ofs + cnt) := by
  intro n
  induction n with
  | zero =>
    intro i ofs cnt hn _
    exact (decide_eq_false (by omega)).symm
  | succ n ih =>
    intro i ofs cnt hn hofs
    unfold bitAfter fieldAfter
    rw [stores]
    by_cases h0 : cnt = 0
    · rw [if_pos h0]
      exact (decide_eq_false (by omega)).symm
    · rw [if_neg h0]
      simp only [List.foldl_cons]
      generalize hcdef : (if cnt > 64 - ofs then 64 - ofs else cnt) = cc
      -- this round takes the `cc` bits `[i * 64 + ofs, i * 64 + ofs + cc)`, all in field `i`; the rest starts with field `i + 1`
      have hcc := round_takes (Nat.pos_of_ne_zero h0) hofs hcdef
      by_cases hik : i = k / 64
      · rw [if_pos hik, foldl_skip (by omega)]
        show (fieldMask cc ofs).testBit (k % 64) = _
        rw [fieldMask_bit cc ofs _ hcc.1 hcc.2.1 (Nat.mod_lt _ (by decide)), decide_eq_decide]
        omega
      · rw [if_neg hik]
        refine (ih (i + 1) 0 (cnt - cc) (by omega) (by decide)).trans ?_
        rw [decide_eq_decide]
        omega

theorem stores_bits (k : Nat) : ∀ (n i ofs cnt : Nat), cnt ≤ n → ofs < 64 → i * 64 + ofs + cnt ≤ 512 → i ≤ k / 64 →
    (match (stores n i ofs cnt).foldl (fun acc p => if p.1 = k / 64 then some p.2 else acc) none with
      | some m => m.testBit (k % 64)
      | none => false) = decide (i * 64 + ofs ≤ k ∧ k < i * 64 + ofs + cnt) :=
  fun n i ofs cnt h1 h2 _ _ => bitAfter_stores k n i ofs cnt h1 h2

end MaskL
