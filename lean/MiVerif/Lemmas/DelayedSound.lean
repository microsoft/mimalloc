import MiVerif.Model.DelayedExec
/-! the executable trace validator `Delayed.exec` only accepts steps of the model -/
namespace Delayed

theorem findB_some {l pre post : List Flight} {b b' : Blk} {pc : Pc} (h : findB l b = some (pre, ⟨b', pc⟩, post)) :
    l = pre ++ ⟨b, pc⟩ :: post := by
  obtain ⟨h1, rfl⟩ := findB_spec h
  exact h1

theorem exec_sound {s s' : St} {l : Lbl} (h : exec s l = some s') : Step s s' := by
  cases l with
  | start b =>
    obtain ⟨hc, rfl⟩ := Option.ite_some_none_eq_some.1 h; exact .start s b hc
  | load b =>
    dsimp only [exec] at h; split at h
    · rename_i pre _ post hf; cases h; exact .load s pre post b (findB_some hf)
    · cases h
  | cas2fail b =>
    dsimp only [exec] at h; split at h
    · rename_i pre _ hh ff post hf; cases h; exact .cas2fail s pre post b hh ff (findB_some hf)
    · cases h
  | cas2push b =>
    dsimp only [exec] at h; split at h
    · rename_i pre _ hh ff post hf; obtain ⟨hc, rfl⟩ := Option.ite_some_none_eq_some.1 h
      exact .cas2push s pre post b hh ff (findB_some hf) ⟨hc.1, hc.2.1⟩ hc.2.2
    · cases h
  | cas2delay b =>
    dsimp only [exec] at h; split at h
    · rename_i pre _ hh ff post hf; obtain ⟨hc, rfl⟩ := Option.ite_some_none_eq_some.1 h
      exact .cas2delay s pre post b hh ff (findB_some hf) ⟨hc.1, hc.2.1⟩ hc.2.2
    · cases h
  | load4 b =>
    dsimp only [exec] at h; split at h
    · rename_i pre _ post hf; cases h; exact .load4 s pre post b (findB_some hf)
    · cases h
  | cas4fail b =>
    dsimp only [exec] at h; split at h
    · rename_i pre _ d post hf; cases h; exact .cas4fail s pre post b d (findB_some hf)
    · cases h
  | cas4ok b =>
    dsimp only [exec] at h; split at h
    · rename_i pre _ d post hf; obtain ⟨hc, rfl⟩ := Option.ite_some_none_eq_some.1 h
      exact .cas4ok s pre post b d (findB_some hf) hc
    · cases h
  | load5 b =>
    dsimp only [exec] at h; split at h
    · rename_i pre _ post hf; cases h; exact .load5 s pre post b (findB_some hf)
    · cases h
  | cas5fail b =>
    dsimp only [exec] at h; split at h
    · rename_i pre _ hh ff post hf; cases h; exact .cas5fail s pre post b hh ff (findB_some hf)
    · cases h
  | cas5ok b =>
    dsimp only [exec] at h; split at h
    · rename_i pre _ hh ff post hf; obtain ⟨hc, rfl⟩ := Option.ite_some_none_eq_some.1 h
      exact .cas5ok s pre post b hh ff (findB_some hf) hc
    · cases h
  | tfCollect => cases h; exact .tfCollect s
  | lfCollect => obtain ⟨hc, rfl⟩ := Option.ite_some_none_eq_some.1 h; exact .lfCollect s hc
  | malloc =>
    dsimp only [exec] at h; split at h
    · rename_i b rest hc; cases h; exact .malloc s b rest hc
    · cases h
  | freeLocal b => obtain ⟨hc, rfl⟩ := Option.ite_some_none_eq_some.1 h; exact .freeLocal s b hc
  | takeDl => obtain ⟨hc, rfl⟩ := Option.ite_some_none_eq_some.1 h; exact .takeDl s hc.1 hc.2
  | procStart =>
    dsimp only [exec] at h; split at h
    · rename_i b rest hp; obtain ⟨ho, rfl⟩ := Option.ite_some_none_eq_some.1 h; exact .procStart s b rest hp ho
    · cases h
  | procSetUse =>
    dsimp only [exec] at h; split at h
    · rename_i b ho; obtain ⟨hc, rfl⟩ := Option.ite_some_none_eq_some.1 h; exact .procSetUse s b ho hc.1 hc.2
    · cases h
  | procNever =>
    dsimp only [exec] at h; split at h
    · rename_i b ho; obtain ⟨hc, rfl⟩ := Option.ite_some_none_eq_some.1 h; exact .procNever s b ho hc
    · cases h
  | procGiveUp =>
    dsimp only [exec] at h; split at h
    · rename_i b ho; cases h; exact .procGiveUp s b ho
    · cases h
  | procFree =>
    dsimp only [exec] at h; split at h
    · rename_i b ho; cases h; exact .procFree s b ho
    · cases h

#print axioms exec_sound
end Delayed
