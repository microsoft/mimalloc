import MiVerif.Gen.Tables
import MiVerif.Lemmas.Align
/-! size classes: `mi_bin` against its specification `binOfW` on word sizes (`bin_bridge`), the size table `_mi_bin_size`, and
   `mi_good_size` -/

namespace C16L
open Gen

/-! ### specification of `mi_bin` on word sizes -/

theorem wsize_eq (n : Nat) (h : n < 2^64 - 8) : _mi_wsize_from_size n = (n + 7) / 8 := by
  unfold _mi_wsize_from_size
  rw [Nat.mod_eq_of_lt (show n + 8 < 18446744073709551616 by omega), Word.wrap_sub (x := n + 8) (by omega) (by omega)]
  rfl

/-- `mi_bin` on the size in words: up to 8 words the word count rounded up to even (1 for 0 and 1), up to 8192 words
    (`MI_MEDIUM_OBJ_SIZE_MAX` = 64 KiB) the logarithmic class of `w - 1`, above that `MI_BIN_HUGE` -/
def binOfW (w : Nat) : Nat :=
  if w ≤ 8 then (if w ≤ 1 then 1 else (w + 1) / 2 * 2)
  else if w > 8192 then 73
  else quad (w - 1) - 3

theorem binOfW_small_eq (w : Nat) (h : w ≤ 8) : binOfW w = if w ≤ 1 then 1 else (w + 1) / 2 * 2 := by
  unfold binOfW
  rw [if_pos h]

theorem binOfW_mid_eq (w : Nat) (h9 : 9 ≤ w) (h : w ≤ 8192) : binOfW w = quad (w - 1) - 3 := by
  unfold binOfW
  rw [if_neg (by omega), if_neg (by omega)]

theorem binOfW_huge (w : Nat) (h : 8192 < w) : binOfW w = 73 := by
  unfold binOfW
  rw [if_neg (by omega), if_pos h]

theorem bin_bridge (n : Nat) (h : n < 2^64 - 8) : mi_bin n = binOfW ((n + 7) / 8) := by
  unfold mi_bin
  rw [wsize_eq n h]
  have hwlt : (n + 7) / 8 < 2^61 := by omega
  generalize (n + 7) / 8 = w at hwlt ⊢
  clear h
  dsimp only
  by_cases h8 : w ≤ 8
  · rw [if_pos h8, binOfW_small_eq w h8, Nat.mod_eq_of_lt (by omega), land_even _ (by omega)]
  · rw [if_neg h8]
    by_cases h9 : w > 8192
    · rw [if_pos h9, binOfW_huge w h9]
    · have e1 : (w + 18446744073709551616 - 1) % 18446744073709551616 = w - 1 := Word.wrap_sub (by omega) (by omega)
      have hv : w - 1 ≠ 0 := by omega
      obtain ⟨hb3, hb12⟩ := log2_range (w - 1) 3 12 (by omega) (by omega)
      have hq := quad_ge (w - 1)
      have hq' := quad_lt (w - 1)
      rw [if_neg h9, binOfW_mid_eq w (by omega) (by omega), e1, bsr_expr (w - 1) hv (by omega), (quad_gen (w - 1) (by omega) (by omega)).1,
        Nat.mod_eq_of_lt (a := quad (w - 1)) (by omega), Word.wrap_sub (by omega) (by omega)]

theorem binOfW_mid (w : Nat) (h9 : 9 ≤ w) (h : w ≤ 8192) :
    ∃ b q, 3 ≤ b ∧ b ≤ 12 ∧ q < 4 ∧ binOfW w = 4 * b + q - 3 ∧ (4 + q) * 2^(b-2) ≤ w - 1 ∧ w - 1 < (5 + q) * 2^(b-2) := by
  obtain ⟨b, q, h1, h2, h3, e, h4, h5⟩ := quad_spec (w - 1) 3 12 (by decide) (by omega) (by omega)
  exact ⟨b, q, h1, h2, h3, by rw [binOfW_mid_eq w h9 h, e], h4, h5⟩

theorem binOfW_small (w : Nat) (h : w ≤ 8) : 1 ≤ binOfW w ∧ binOfW w ≤ 8 ∧ w ≤ binOfW w ∧
    (binOfW w = 1 ∨ binOfW w % 2 = 0) := by
  rw [binOfW_small_eq w h]
  split <;> omega

theorem binOfW_le (w : Nat) : binOfW w ≤ 73 := by
  rcases Nat.lt_or_ge 8192 w with h | h
  · exact Nat.le_of_eq (binOfW_huge w h)
  · rcases Nat.lt_or_ge w 9 with h8 | h9
    · have := binOfW_small w (by omega); omega
    · obtain ⟨b, q, _, _, _, e, _⟩ := binOfW_mid w h9 h
      omega

theorem binOfW_mono {w w' : Nat} (hww : w ≤ w') : binOfW w ≤ binOfW w' := by
  rcases Nat.lt_or_ge 8192 w' with h | h
  · rw [binOfW_huge w' h]; exact binOfW_le w
  · rcases Nat.lt_or_ge w' 9 with h8 | h9
    · -- both small: 1 up to one word, then the word count rounded up to even
      rw [binOfW_small_eq w (by omega), binOfW_small_eq w' (by omega)]
      by_cases h1 : w' ≤ 1
      · rw [if_pos h1, if_pos (Nat.le_trans hww h1)]; exact Nat.le_refl 1
      · rw [if_neg h1]
        by_cases h0 : w ≤ 1
        · rw [if_pos h0]; omega
        · rw [if_neg h0]; exact Nat.mul_le_mul_right 2 (Nat.div_le_div_right (Nat.succ_le_succ hww))
    · rcases Nat.lt_or_ge w 9 with g8 | g9
      · obtain ⟨b', q', hb3', _, _, e', _⟩ := binOfW_mid w' h9 h
        have := binOfW_small w (by omega); omega
      · have := quad_mono (show 4 ≤ w - 1 by omega) (show w - 1 ≤ w' - 1 by omega)
        rw [binOfW_mid_eq w g9 (by omega), binOfW_mid_eq w' h9 h]
        omega

/-! ### the size table -/

theorem binsize_formula : ∀ b, b < 13 → ∀ q, q < 4 → 3 ≤ b →
    _mi_bin_size (4 * b + q - 3) = 8 * ((5 + q) * 2^(b-2)) := by decide

theorem binsize_small : ∀ b, b < 9 → 1 ≤ b → _mi_bin_size b = 8 * b := by decide

theorem binsize_step : ∀ b, b < 72 → 1 ≤ b → _mi_bin_size b < _mi_bin_size (b + 1) := by decide

theorem binsize_strictMono (a b : Nat) (ha : 1 ≤ a) (hab : a < b) (hb : b < 73) :
    _mi_bin_size a < _mi_bin_size b := by
  induction b with
  | zero => omega
  | succ b ih =>
    rcases Nat.lt_or_eq_of_le (Nat.le_of_lt_succ hab) with h | rfl
    · exact Nat.lt_trans (ih h (by omega)) (binsize_step b (by omega) (by omega))
    · exact binsize_step a (by omega) ha

/-- every bin actually used by `mi_bin` for small/medium sizes is a fixed point -/
theorem bin_fix : ∀ b, b < 49 → 1 ≤ b → (b = 1 ∨ b % 2 = 0 ∨ 8 < b) → mi_bin (_mi_bin_size b) = b := by
  decide

/-! ### properties on the generated `mi_bin` -/

theorem medium_bridge (n : Nat) (h : n ≤ 65536) : mi_bin n = binOfW ((n + 7) / 8) ∧ (n + 7) / 8 ≤ 8192 :=
  ⟨bin_bridge n (by omega), by omega⟩

theorem bin_ge (n : Nat) (h : n ≤ 65536) : n ≤ _mi_bin_size (mi_bin n) := by
  obtain ⟨e, hw⟩ := medium_bridge n h
  rw [e]
  have hn : n ≤ 8 * ((n + 7) / 8) := by omega
  generalize (n + 7) / 8 = w at *
  rcases Nat.lt_or_ge w 9 with h8 | h9
  · obtain ⟨s1, s2, s3, _⟩ := binOfW_small w (by omega)
    rw [binsize_small _ (by omega) s1]; omega
  · obtain ⟨b, q, hb3, hb12, hq, e, _, hY⟩ := binOfW_mid w h9 hw
    rw [e, binsize_formula b (by omega) q hq hb3]
    omega

theorem bin_frag (n : Nat) (h64 : 64 < n) (h : n ≤ 65536) :
    4 * (_mi_bin_size (mi_bin n) - n) ≤ _mi_bin_size (mi_bin n) := by
  obtain ⟨e, hw⟩ := medium_bridge n h
  rw [e]
  have hn : 8 * ((n + 7) / 8 - 1) < n := by omega
  have h9 : 9 ≤ (n + 7) / 8 := by omega
  generalize (n + 7) / 8 = w at *
  obtain ⟨b, q, hb3, hb12, hq, e, hX, hY⟩ := binOfW_mid w h9 hw
  rw [e, binsize_formula b (by omega) q hq hb3]
  -- with `P = 2^(b-2)`: the class is `[(4+q)·P, (5+q)·P)` in words, one `P` wide and at least `4·P` up
  rw [Nat.add_mul] at hX hY ⊢
  omega

theorem bin_used (n : Nat) (h : n ≤ 65536) :
    1 ≤ mi_bin n ∧ mi_bin n < 49 ∧ (mi_bin n = 1 ∨ mi_bin n % 2 = 0 ∨ 8 < mi_bin n) := by
  obtain ⟨e, hw⟩ := medium_bridge n h
  rw [e]
  generalize (n + 7) / 8 = w at *
  rcases Nat.lt_or_ge w 9 with h8 | h9
  · obtain ⟨s1, s2, _, s4⟩ := binOfW_small w (by omega)
    exact ⟨s1, by omega, s4.imp_right Or.inl⟩
  · obtain ⟨b, q, hb3, hb12, hq, e, _⟩ := binOfW_mid w h9 hw
    exact ⟨by omega, by omega, Or.inr (Or.inr (by omega))⟩

theorem bin_idem (n : Nat) (h : n ≤ 65536) : mi_bin (_mi_bin_size (mi_bin n)) = mi_bin n := by
  obtain ⟨u1, u2, u3⟩ := bin_used n h
  exact bin_fix _ u2 u1 u3

theorem binsize_le_medium {b : Nat} (h1 : 1 ≤ b) (h : b < 49) : _mi_bin_size b ≤ 65536 := by
  have e : _mi_bin_size 48 = 65536 := by decide
  rcases Nat.lt_or_eq_of_le (Nat.le_of_lt_succ h) with hlt | rfl
  · exact e ▸ Nat.le_of_lt (binsize_strictMono b 48 h1 hlt (by decide))
  · exact Nat.le_of_eq e

/-! ### mi_good_size -/

theorem good_small {ps n : Nat} (h : n ≤ 65536) :
    mi_good_size _mi_bin_size ps n = _mi_bin_size (mi_bin n) := by
  unfold mi_good_size
  simp only [if_pos h, Nat.add_zero, Nat.mod_eq_of_lt (show n < 18446744073709551616 by omega)]

theorem good_large {ps n : Nat} (h : 65536 < n) (h2 : n < 2^64) :
    mi_good_size _mi_bin_size ps n = _mi_align_up n ps := by
  unfold mi_good_size
  have c : ¬ n ≤ 65536 := by omega
  simp only [if_neg c, Nat.add_zero, Nat.mod_eq_of_lt h2]

theorem page_fits (n k : Nat) (hk2 : k ≤ 30) (hn : n ≤ 2^63 - 1 + 2^30) : n + 2^k < 2^64 := by
  have : 2^k ≤ 2^30 := Nat.pow_le_pow_right (by omega) hk2
  omega

theorem good_ge (n k : Nat) (hk2 : k ≤ 30) (hn : n ≤ 2^63 - 1) :
    n ≤ mi_good_size _mi_bin_size (2^k) n := by
  rcases Nat.lt_or_ge 65536 n with h | h
  · have hf := page_fits n k hk2 (by omega)
    have hP : 0 < 2^k := Nat.two_pow_pos _
    rw [good_large h (by omega), Align.up_eq n _ hP hf]
    exact (Word.roundUp_bounds n hP).1
  · rw [good_small h]; exact bin_ge n h

theorem good_idem (n k : Nat) (hk2 : k ≤ 30) (hn : n ≤ 2^63 - 1) :
    mi_good_size _mi_bin_size (2^k) (mi_good_size _mi_bin_size (2^k) n) = mi_good_size _mi_bin_size (2^k) n := by
  rcases Nat.lt_or_ge 65536 n with h | h
  · have hf := page_fits n k hk2 (by omega)
    have hP : 0 < 2^k := Nat.two_pow_pos _
    have hP30 : 2^k ≤ 2^30 := Nat.pow_le_pow_right (by omega) hk2
    rw [good_large h (by omega), Align.up_eq n _ hP hf]
    obtain ⟨b1, b2⟩ := Word.div_mul_bounds (n + 2^k - 1) hP
    generalize (n + 2^k - 1) / 2^k = m at *
    generalize 2^k = P at *
    have hg : 65536 < m * P := by omega
    have hf2 : m * P + P < 2^64 := by omega
    rw [good_large hg (by omega), Align.up_eq _ _ hP hf2, Word.roundUp_mul m hP]
  · obtain ⟨u1, u2, _⟩ := bin_used n h
    rw [good_small h, good_small (binsize_le_medium u1 u2), bin_idem n h]

end C16L
