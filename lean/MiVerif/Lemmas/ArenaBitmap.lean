import MiVerif.Gen.Arith
import MiVerif.Gen.Loops
import MiVerif.Lemmas.Word
/-! the arena's bitmaps as regenerated.  The small helpers of src/bitmap.c in closed form: the mask of a claim (`mi_bitmap_mask_`) is the
    run of ones the models (`BitSeq`, `BitmapC`) speak about, and a bitmap index (`mi_bitmap_index_create`) is `field * 64 + bit`.
    `mi_arena_purge_range` of src/arena.c (two nested `while` loops, `whileN`): the inner loop's invariant (stated on the lambdas as they
    are generated, so that it applies after `unfold` as it stands) and the reading of its mask test, for Props/C13. -/
namespace BitmapMaskL

theorem mask_eq (count bitidx : Nat) (hfit : bitidx + count ≤ 64) : Gen.mi_bitmap_mask_ count bitidx = (2^count - 1) * 2^bitidx := by
  unfold Gen.mi_bitmap_mask_
  by_cases h0 : count = 0
  · rw [h0, if_neg (by decide), if_pos rfl, Nat.pow_zero, Nat.sub_self, Nat.zero_mul]
  · simp only [if_neg h0]
    exact Word.ones_shl_wrap count bitidx hfit

theorem index_create_eq (idx b : Nat) (hi : idx * 64 + b < 18446744073709551616) : GenL.mi_bitmap_index_create idx b = idx * 64 + b := by
  unfold GenL.mi_bitmap_index_create GenL.mi_bitmap_index_create_ex
  rw [Nat.mod_eq_of_lt (by omega : idx * 64 < 18446744073709551616), Nat.mod_eq_of_lt hi]

end BitmapMaskL

namespace PurgeRangeL

theorem inner_inv (purge bitidx endidx : Nat) (he : endidx ≤ 64) (hb : bitidx < endidx) (n : Nat) :
    let count := whileN n (fun st_ =>
        let count := st_
        decide (((((bitidx + count)) % 18446744073709551616) < endidx) ∧ ((purge &&& (((1 * 2^(((bitidx + count)) % 18446744073709551616))) % 18446744073709551616)) ≠ 0)))
      (fun st_ =>
        let count := st_
        let count := (((count + 1)) % 18446744073709551616)
        count) 0
    bitidx + count ≤ endidx ∧ ∀ j, j < count → purge &&& ((1 * 2^((bitidx + j) % 18446744073709551616)) % 18446744073709551616) ≠ 0 := by
  intro count
  apply whileN_inv (fun count => bitidx + count ≤ endidx ∧ ∀ j, j < count → purge &&& ((1 * 2^((bitidx + j) % 18446744073709551616)) % 18446744073709551616) ≠ 0)
  · intro cnt ⟨hle, hbits⟩ hc
    obtain ⟨hlt, hbit⟩ := of_decide_eq_true hc
    rw [Nat.mod_eq_of_lt (by omega : bitidx + cnt < 18446744073709551616)] at hlt
    simp only [Nat.mod_eq_of_lt (by omega : cnt + 1 < 18446744073709551616)]
    refine ⟨by omega, fun j hj => ?_⟩
    -- the bits counted before, and the one the loop condition has just tested
    rcases Nat.lt_succ_iff_lt_or_eq.1 hj with hj | rfl
    · exact hbits j hj
    · exact hbit
  · exact ⟨by omega, fun j hj => absurd hj (Nat.not_lt_zero j)⟩

theorem bit_of_mask (x k : Nat) (hk : k < 64) (h : x &&& ((1 * 2^(k % 18446744073709551616)) % 18446744073709551616) ≠ 0) :
    x.testBit k = true := by
  have hk1 : k % 18446744073709551616 = k := Nat.mod_eq_of_lt (by omega)
  have hp : (1 * 2^k) % 18446744073709551616 = 2^k := by
    rw [Nat.one_mul]
    exact Nat.mod_eq_of_lt (Nat.pow_lt_pow_right (by decide) hk : 2^k < 2^64)
  rw [hk1, hp] at h
  exact Word.and_pow_ne_zero x k h

end PurgeRangeL
