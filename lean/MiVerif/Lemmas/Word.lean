import MiVerif.Gen.Prelude
/-! Arithmetic of 64-bit words as the translator writes it (`% 2^64` after every operation, `x + 2^64 - y` for a subtraction,
   `sw64` for a signed difference) and of rounding to multiples.  The wrap-around and rounding lemmas are over variables: the modulus `M` and
   the alignment `a` unify with the literals of a generated definition where a lemma is used; the signed-difference and mask lemmas are
   about 2^64. -/

namespace Word

/-! ### wrap-around elimination (`(x + y) % M = x + y` is `Nat.mod_eq_of_lt`) -/

theorem wrap_sub {x y M : Nat} (hy : y ≤ x) (hx : x < M) : (x + M - y) % M = x - y := by
  have e : x + M - y = (x - y) + M := by omega
  rw [e, Nat.add_mod_right]
  exact Nat.mod_eq_of_lt (by omega)

/-- the C idiom `x > y ? x - y : 0` (or with `>=`) -/
theorem guarded_sub {x y M : Nat} {c : Prop} [Decidable c] (hx : x < M) (hc : c → y ≤ x) (hn : ¬ c → x ≤ y) :
    (if c then (x + M - y) % M else 0) = x - y := by
  split
  · exact wrap_sub (hc ‹_›) hx
  · exact (Nat.sub_eq_zero_of_le (hn ‹_›)).symm

theorem add_sub_wrap {r k M : Nat} (hr : r < M) (hk : k < M) : ((r + k) % M + M - k) % M = r := by
  rw [Nat.add_sub_assoc (Nat.le_of_lt hk), Nat.mod_add_mod, Nat.add_assoc, Nat.add_sub_cancel' (Nat.le_of_lt hk), Nat.add_mod_right,
    Nat.mod_eq_of_lt hr]

/-- the C idiom `n > u ? u : n` -/
theorem ite_gt_min (u n : Nat) : (if n > u then u else n) = min u n := by
  rw [Nat.min_def]; split <;> split <;> omega

/-! ### rounding down and up to a multiple of `a` -/

theorem div_mul_bounds (x : Nat) {a : Nat} (ha : 0 < a) : x / a * a ≤ x ∧ x < x / a * a + a :=
  ⟨Nat.div_mul_le_self x a, Nat.lt_div_mul_add ha⟩

theorem roundUp_bounds (x : Nat) {a : Nat} (ha : 0 < a) : x ≤ (x + a - 1) / a * a ∧ (x + a - 1) / a * a < x + a := by
  have := div_mul_bounds (x + a - 1) ha
  omega

theorem roundUp_mul (k : Nat) {a : Nat} (ha : 0 < a) : (k * a + a - 1) / a * a = k * a := by
  have e : k * a + a - 1 = (a - 1) + a * k := by rw [Nat.mul_comm]; omega
  rw [e, Nat.add_mul_div_left _ _ ha, Nat.div_eq_of_lt (by omega), Nat.zero_add]

theorem roundUp_of_mod {x a : Nat} (ha : 0 < a) (h : x % a = 0) : (x + a - 1) / a * a = x := by
  obtain ⟨k, rfl⟩ := Nat.dvd_of_mod_eq_zero h
  rw [Nat.mul_comm a k, roundUp_mul k ha]

theorem roundUp_mono {x y : Nat} (a : Nat) (h : x ≤ y) : (x + a - 1) / a * a ≤ (y + a - 1) / a * a :=
  Nat.mul_le_mul_right a (Nat.div_le_div_right (by omega))

theorem roundUp_le {x a b : Nat} (ha : 0 < a) (hb : b % a = 0) (h : x ≤ b) : (x + a - 1) / a * a ≤ b :=
  roundUp_of_mod ha hb ▸ roundUp_mono a h

theorem add_adjust_mod (p : Nat) {b : Nat} (hb : 0 < b) : (p + (b - p % b)) % b = 0 := by
  have h1 : p % b < b := Nat.mod_lt _ hb
  have h2 := Nat.div_add_mod p b
  have h3 : p + (b - p % b) = b * (p / b + 1) := by rw [Nat.mul_add, Nat.mul_one]; omega
  rw [h3]; exact Nat.mul_mod_right _ _

/-- the C idiom `r == 0 ? 0 : a - r` for `r = x % a` -/
theorem adjust_up (x : Nat) {a M : Nat} (ha : 0 < a) (haM : a < M) :
    ∃ adj, (if x % a = 0 then 0 else (a + M - x % a) % M) = adj ∧ adj < a ∧ (x + adj) % a = 0 := by
  have hr : x % a < a := Nat.mod_lt _ ha
  by_cases h0 : x % a = 0
  · exact ⟨0, if_pos h0, ha, h0⟩
  · exact ⟨a - x % a, by rw [if_neg h0, wrap_sub (Nat.le_of_lt hr) haM], Nat.sub_lt ha (Nat.pos_of_ne_zero h0), add_adjust_mod x ha⟩

theorem mod_of_dvd_of_mod {x a b : Nat} (hab : a ∣ b) (h : x % b = 0) : x % a = 0 := by
  rw [← Nat.mod_mod_of_dvd x hab, h]; exact Nat.zero_mod a

/-! ### signed differences -/

theorem sw64_small (D : Nat) (hD : D < 9223372036854775808) : sw64 (D : Int) = (D : Int) := by
  unfold sw64
  omega

/-- a `char*` difference `e - s` (`tdiv 1` is the division by the element size) that is not negative, cast to `size_t` -/
theorem sdiff_toNat {e s : Nat} (h : s ≤ e) (hd : e - s < 9223372036854775808) :
    ((sw64 ((e : Int) - (s : Int))).tdiv 1 % 18446744073709551616).toNat = e - s := by
  have : (e : Int) - (s : Int) = ((e - s : Nat) : Int) := by omega
  rw [this, Int.tdiv_one, sw64_small _ hd]
  omega

theorem pdiff_eq (base D : Nat) (hD : D < 9223372036854775808) :
    ((sw64 (((base + D : Nat) : Int) - (base : Int))).tdiv 1 % 18446744073709551616).toNat = D := by
  rw [sdiff_toNat (Nat.le_add_right base D) (by omega), Nat.add_sub_cancel_left]

theorem sdiff_nonpos_iff {e s : Nat} (he : e < 9223372036854775808) (hs : s < 9223372036854775808) :
    (sw64 ((e : Int) - (s : Int))).tdiv 1 ≤ 0 ↔ e ≤ s := by
  rw [Int.tdiv_one]
  unfold sw64
  omega

/-! ### single bits, runs of ones (`((1 << c) - 1) << ofs`) -/

theorem and_pow_ne_zero (x k : Nat) (h : x &&& 2^k ≠ 0) : x.testBit k = true := by
  -- some bit of `x &&& 2^k` is set, and it can only be bit `k`
  obtain ⟨i, hi⟩ := Nat.exists_testBit_of_ne_zero h
  rw [Nat.testBit_and, Nat.testBit_two_pow, Bool.and_eq_true, decide_eq_true_eq] at hi
  exact hi.2 ▸ hi.1

/-- `c` ones from bit `ofs` on -/
theorem testBit_ones_shl (c ofs j : Nat) : ((2^c - 1) * 2^ofs).testBit j = decide (ofs ≤ j ∧ j < ofs + c) := by
  rw [Nat.testBit_mul_two_pow, Nat.testBit_two_pow_sub_one, ← Bool.decide_and, decide_eq_decide]
  omega

theorem ones_shl_lt (c ofs : Nat) : (2^c - 1) * 2^ofs < 2^(ofs + c) := by
  rw [Nat.pow_add, Nat.mul_comm (2^ofs)]
  exact Nat.mul_lt_mul_of_pos_right (Nat.sub_lt (Nat.two_pow_pos c) Nat.one_pos) (Nat.two_pow_pos ofs)

/-- the C idiom `c >= 64 ? ~0 : ((1 << c) - 1) << ofs` on 64-bit words (the first shift is undefined for `c = 64`), when the ones fit
    below bit 64 -/
theorem ones_shl_wrap (c ofs : Nat) (hfit : ofs + c ≤ 64) :
    (if c ≥ 64 then 18446744073709551615
      else ((1 * 2^c) % 18446744073709551616 + 18446744073709551616 - 1) % 18446744073709551616 * 2^ofs % 18446744073709551616)
      = (2^c - 1) * 2^ofs := by
  split
  · obtain ⟨rfl, rfl⟩ : c = 64 ∧ ofs = 0 := by omega
    rfl
  · have hlt : 2^c < 18446744073709551616 := Nat.pow_lt_pow_right (by decide) (show c < 64 by omega)
    rw [Nat.one_mul, Nat.mod_eq_of_lt hlt, wrap_sub (Nat.two_pow_pos c) hlt]
    exact Nat.mod_eq_of_lt (Nat.lt_of_lt_of_le (ones_shl_lt c ofs) (Nat.pow_le_pow_right (by decide) hfit))

theorem ones_shl_and_eq_zero_iff (c1 i1 c2 i2 : Nat) (h1 : 1 ≤ c1) (h2 : 1 ≤ c2) :
    (2^c1 - 1) * 2^i1 &&& (2^c2 - 1) * 2^i2 = 0 ↔ (i1 + c1 ≤ i2 ∨ i2 + c2 ≤ i1) := by
  constructor
  · intro h
    -- if they overlap, the larger of the two starts is in both ranges
    have t := congrArg (fun m => m.testBit (max i1 i2)) h
    simp only [Nat.testBit_and, testBit_ones_shl, Nat.zero_testBit, ← Bool.decide_and, decide_eq_false_iff_not] at t
    omega
  · intro h
    apply Nat.eq_of_testBit_eq
    intro j
    rw [Nat.testBit_and, testBit_ones_shl, testBit_ones_shl, Nat.zero_testBit, ← Bool.decide_and, decide_eq_false_iff_not]
    omega

end Word
