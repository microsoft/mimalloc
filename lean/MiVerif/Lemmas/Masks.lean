import MiVerif.Model.Commit
import MiVerif.Gen.CommitPrelude
import MiVerif.Gen.ArenaPrelude
/-! The hand model (`CommitM.setR / clrR`), the segment prelude (`GenC.mUnion / mDiff`) and the arena prelude (`GenR.mSet / mClr`) each
    have their own bitmap operations on `Nat → Bool`.  Setting a range is the union with the range mask and clearing it the difference,
    so every commit / purge invariant is a statement about `mUnion` and `mDiff` at one bit `k` (`MaskAlg`: the `_pt` lemmas, in which
    `c` is a committed mask, `o` the accessibility, `u` the in-use mask and `m` / `r` the range of the request, and the case description
    `CommitCase` of a commit step); the range matters only where a whole range is tested (`allSet`, `mAllSet`, `bmAllSet`). -/
namespace CommitM

theorem allSet_iff {m : Mask} {i n : Nat} : allSet m i n = true ↔ ∀ k, i ≤ k → k < i + n → m k = true := by
  unfold allSet
  rw [List.all_eq_true]
  constructor
  · intro h k h1 h2
    obtain ⟨j, rfl⟩ := Nat.exists_eq_add_of_le h1
    exact h j (List.mem_range.2 (Nat.lt_of_add_lt_add_left h2))
  · intro h j hj
    exact h (i + j) (Nat.le_add_right i j) (Nat.add_lt_add_left (List.mem_range.1 hj) i)

end CommitM

namespace MaskAlg
open GenC

theorem mRange_iff {i n k : Nat} : mRange i n k = true ↔ i ≤ k ∧ k < i + n := decide_eq_true_iff

theorem setR_eq (m : Nat → Bool) (i n : Nat) : CommitM.setR m i n = mUnion m (mRange i n) := by
  funext k; unfold CommitM.setR mUnion mRange; split <;> simp [*]
theorem clrR_eq (m : Nat → Bool) (i n : Nat) : CommitM.clrR m i n = mDiff m (mRange i n) := by
  funext k; unfold CommitM.clrR mDiff mRange; split <;> simp [*]
theorem mSet_eq (m : Nat → Bool) (i n : Int) : GenR.mSet m i n = mUnion m (GenR.inRange i n) := by
  funext k; unfold GenR.mSet mUnion; split <;> simp [*]
theorem mClr_eq (m : Nat → Bool) (i n : Int) : GenR.mClr m i n = mDiff m (GenR.inRange i n) := by
  funext k; unfold GenR.mClr mDiff; split <;> simp [*]

theorem mUnion_iff {a b : Nat → Bool} {k : Nat} : mUnion a b k = true ↔ a k = true ∨ b k = true := Bool.or_eq_true_iff
theorem mDiff_iff {a b : Nat → Bool} {k : Nat} : mDiff a b k = true ↔ a k = true ∧ b k = false := by
  unfold mDiff
  rw [Bool.and_eq_true, Bool.not_eq_true']

theorem setR_iff {m : Nat → Bool} {i n k : Nat} : CommitM.setR m i n k = true ↔ m k = true ∨ (i ≤ k ∧ k < i + n) := by
  rw [setR_eq, mUnion_iff, mRange_iff]
theorem clrR_iff {m : Nat → Bool} {i n k : Nat} : CommitM.clrR m i n k = true ↔ m k = true ∧ ¬ (i ≤ k ∧ k < i + n) := by
  rw [clrR_eq, mDiff_iff, ← mRange_iff, Bool.not_eq_true]

theorem union_pt {c o m : Nat → Bool} {k : Nat} (h : c k = true → o k = true) : mUnion c m k = true → mUnion o m k = true := by
  rw [mUnion_iff, mUnion_iff]; exact Or.imp_left h

/-- one commit request against a state with a commit mask and an accessibility mask (projections `cm`, `os`): `m` is the mask of the
    request, `u` the units the OS is asked for, `why` the reason for which nothing has to be committed.  The hand model
    (`CommitM.segCommit`) and the generated `mi_segment_commit` are both described by it. -/
inductive CommitCase {S : Type} (cm os : S → Nat → Bool) (σ : S) (m u : Nat → Bool) (why : Prop) (ok : Bool) : S × Bool → Prop
  /-- nothing to commit (`τ`: only purge mask and expiry may change) -/
  | covered (τ : S) : cm τ = cm σ → os τ = os σ → why → CommitCase cm os σ m u why ok (τ, true)
  | refused : ok = false → CommitCase cm os σ m u why ok (σ, false)
  | granted (τ : S) : ok = true → cm τ = mUnion (cm σ) m → os τ = mUnion (os σ) u → CommitCase cm os σ m u why ok (τ, true)

section
variable {S : Type} {cm os : S → Nat → Bool} {σ : S} {m u : Nat → Bool} {why : Prop} {ok : Bool} {res : S × Bool}

theorem CommitCase.inv (hs : CommitCase cm os σ m u why ok res) (hu : u = m) (h : ∀ k, cm σ k = true → os σ k = true) :
    ∀ k, cm res.1 k = true → os res.1 k = true := by
  cases hs with
  | covered τ hc ho _ => intro k; rw [hc, ho]; exact h k
  | refused _ => exact h
  | granted τ _ hc ho => intro k; rw [hc, ho, hu]; exact union_pt (h k)

theorem CommitCase.of_refused (hs : CommitCase cm os σ m u why false res) :
    (res.2 = false → res.1 = σ) ∧ cm res.1 = cm σ ∧ os res.1 = os σ := by
  cases hs with
  | covered τ hc ho _ => exact ⟨fun hf => (nomatch hf), hc, ho⟩
  | refused _ => exact ⟨fun _ => rfl, rfl, rfl⟩
  | granted τ hok => cases hok

theorem CommitCase.accessible (hs : CommitCase cm os σ m u why ok res) (hres : res.2 = true) {k : Nat}
    (hcov : why → cm σ k = true) (hk : u k = true) (h : cm σ k = true → os σ k = true) : os res.1 k = true := by
  cases hs with
  | covered τ _ ho hw => rw [ho]; exact h (hcov hw)
  | refused _ => cases hres
  | granted τ _ _ ho => rw [ho]; exact mUnion_iff.2 (Or.inr hk)
end

/-- an arena allocation: claiming the blocks `r` (they become in use) keeps "free blocks recorded as committed are accessible" at `k`,
    whatever happens to the committed bits inside `r`, as long as accessibility only grows -/
theorem claim_pt {u c o c' o' r : Nat → Bool} {k : Nat} (h : u k = false → c k = true → o k = true)
    (hc : r k = false → c' k = c k) (ho : o k = true → o' k = true) : mUnion u r k = false → c' k = true → o' k = true := by
  intro hu hc'
  obtain ⟨hu', hr⟩ := Bool.or_eq_false_iff.1 hu
  exact ho (h hu' (hc hr ▸ hc'))

/-- a purge: the OS revokes access (`og`) only when it also reports that a re-commit is needed (`nr`) -/
theorem clear_pt {c o m : Nat → Bool} {nr og : Bool} (hon : og = true → nr = true) {k : Nat} (h : c k = true → o k = true) :
    (if nr then mDiff c m else c) k = true → (if og then mDiff o m else o) k = true := by
  cases og
  · cases nr
    · exact h
    · exact fun hk => h (mDiff_iff.1 hk).1
  · rw [hon rfl]
    exact fun hk => mDiff_iff.2 ⟨h (mDiff_iff.1 hk).1, (mDiff_iff.1 hk).2⟩

theorem clear_out {c m : Nat → Bool} (b : Bool) {k : Nat} (hm : m k = false) : (if b then mDiff c m else c) k = c k := by
  cases b
  · rfl
  · show (c k && !m k) = c k
    rw [hm, Bool.not_false, Bool.and_true]

theorem clrR_pt {c o : Nat → Bool} {i n : Nat} {nr og : Bool} (hon : og = true → nr = true) {k : Nat} (h : c k = true → o k = true) :
    (if nr then CommitM.clrR c i n else c) k = true → (if og then CommitM.clrR o i n else o) k = true := by
  rw [clrR_eq, clrR_eq]
  exact clear_pt hon h

/-- `_mi_arena_free`, first step: a range `r` that is not reported as all committed (hence accessible) is recorded as uncommitted
    before it is released, so `c ⊆ o` holds on `r` as well -/
theorem mark_pt {u c o r : Nat → Bool} {k : Nat} (h : u k = false → c k = true → o k = true) (hk : u k = false ∨ r k = true) :
    mDiff c r k = true → o k = true := by
  intro hc
  obtain ⟨hc', hr⟩ := mDiff_iff.1 hc
  exact h (hk.resolve_right (hr ▸ Bool.false_ne_true)) hc'

/-- ... last step: the in-use bits of `r` are cleared -/
theorem release_pt {u r : Nat → Bool} {k : Nat} (hk : mDiff u r k = false) : u k = false ∨ r k = true :=
  (Bool.and_eq_false_iff.1 hk).imp_right (Bool.not_eq_false' _).mp

end MaskAlg

/-! ### whole-mask and whole-range tests of the segment prelude -/
namespace C07G
open GenC

theorem mFull_iff {m : Mask} : mFull m = true ↔ ∀ k, k < 512 → m k = true := by
  unfold mFull; rw [List.all_eq_true]
  exact ⟨fun h k hk => h k (List.mem_range.2 hk), fun h k hk => h k (List.mem_range.1 hk)⟩

theorem mAllSet_iff {a cm : Mask} : mAllSet a cm = true ↔ ∀ k, k < 512 → cm k = true → a k = true := by
  have imp : ∀ k, (!cm k || a k) = true ↔ (cm k = true → a k = true) := fun k => by cases cm k <;> simp
  simp only [mAllSet, List.all_eq_true, List.mem_range, imp]

theorem mEmpty_false {m : Mask} {k : Nat} (hk : k < 512) (hm : m k = true) : mEmpty m = false := by
  unfold mEmpty
  rw [List.any_eq_true.2 ⟨k, List.mem_range.2 hk, hm⟩]; rfl

end C07G

/-! ### the arena prelude: `mSet` / `mClr` at one bit, block ranges as index ranges -/
namespace C07A
open GenR

theorem mSet_in {m : Mask} {i n : Int} {k : Nat} (h : inRange i n k = true) : mSet m i n k = true := by simp [mSet, h]
theorem mSet_out {m : Mask} {i n : Int} {k : Nat} (h : inRange i n k = false) : mSet m i n k = m k := by simp [mSet, h]
theorem mClr_in {m : Mask} {i n : Int} {k : Nat} (h : inRange i n k = true) : mClr m i n k = false := by simp [mClr, h]
theorem mClr_out {m : Mask} {i n : Int} {k : Nat} (h : inRange i n k = false) : mClr m i n k = m k := by simp [mClr, h]
theorem mSet_of {m : Mask} {i n : Int} {k : Nat} (h : m k = true) : mSet m i n k = true := by unfold mSet; split <;> simp [h]

theorem range_iff {i n : Int} (hi : 0 ≤ i) {k : Nat} : inRange i n k = true ↔ ∃ j, j < n.toNat ∧ k = i.toNat + j := by
  obtain ⟨i, rfl⟩ := Int.eq_ofNat_of_zero_le hi
  unfold inRange
  rw [decide_eq_true_eq, Int.toNat_natCast]
  constructor
  · intro h; exact ⟨k - i, by omega, by omega⟩
  · rintro ⟨j, hj, rfl⟩; omega

theorem bmAllSet_iff {m : Mask} {i n : Int} (hi : 0 ≤ i) : bmAllSet m i n = true ↔ ∀ k, inRange i n k = true → m k = true := by
  unfold bmAllSet
  rw [List.all_eq_true]
  constructor
  · intro h k hk
    obtain ⟨j, hj, rfl⟩ := (range_iff hi).1 hk
    exact h j (List.mem_range.2 hj)
  · intro h j hj
    exact h _ ((range_iff hi).2 ⟨j, List.mem_range.1 hj, rfl⟩)

theorem bmAnyZero_eq (m : Mask) (i n : Int) : bmAnyZero m i n = !bmAllSet m i n := List.not_all_eq_any_not.symm

theorem bmAnyZero_false {m : Mask} {i n : Int} (hi : 0 ≤ i) (h : bmAnyZero m i n = false) : ∀ k, inRange i n k = true → m k = true :=
  (bmAllSet_iff hi).1 (by rw [bmAnyZero_eq, Bool.not_eq_false'] at h; exact h)

end C07A
