import MiVerif.Gen.Arith
import MiVerif.Lemmas.Word
import MiVerif.Lemmas.Bits
/-! what `_mi_align_up`, `_mi_align_down` and `_mi_divide_up` compute when nothing wraps: one equation each; every other file reasons about
   `x / a * a` and `(x + a - 1) / a * a` (lemmas in `Word`) and never unfolds the three functions again -/

namespace Align
open Gen

/-- what `_mi_align_up` and `_mi_align_down` share: the mask `~(a - 1)` if `a` is a power of two, division otherwise -/
theorem down_gen {x a : Nat} (ha : 0 < a) (ha64 : a < 18446744073709551616) (hx : x < 18446744073709551616) :
    (if a &&& (a - 1) = 0 then x &&& (18446744073709551615 - (a - 1)) % 18446744073709551616
      else x / a * a % 18446744073709551616) = x / a * a := by
  by_cases hp : a &&& (a - 1) = 0
  · -- the mask of `2^k` is `2^64 - 2^k`, which clears the low `k` bits
    obtain ⟨k, rfl⟩ := (Nat.and_sub_one_eq_zero_iff_isPowerOfTwo (Nat.ne_of_gt ha)).1 hp
    have hk64 : k ≤ 64 := Nat.le_of_lt ((Nat.pow_lt_pow_iff_right (by decide : 1 < 2)).1 ha64)
    have e : (18446744073709551615 - (2^k - 1)) % 18446744073709551616 = 2^64 - 2^k := by omega
    rw [if_pos hp, e, C16L.and_hi_mask x k hk64 hx]
  · rw [if_neg hp]
    exact Nat.mod_eq_of_lt (Nat.lt_of_le_of_lt (Nat.div_mul_le_self x a) hx)

theorem up_eq (sz a : Nat) (ha : 0 < a) (h : sz + a < 2^64) : _mi_align_up sz a = (sz + a - 1) / a * a := by
  have e1 : (a + 18446744073709551616 - 1) % 18446744073709551616 = a - 1 := Word.wrap_sub ha (by omega)
  have e2 : (sz + (a - 1)) % 18446744073709551616 = sz + a - 1 := by
    rw [Nat.mod_eq_of_lt (by omega)]; omega
  unfold _mi_align_up
  simp only [e1, e2]
  exact down_gen ha (by omega) (by omega)

theorem down_eq (sz a : Nat) (ha : 0 < a) (h : sz < 2^64) (ha2 : a < 2^64) : _mi_align_down sz a = sz / a * a := by
  have e1 : (a + 18446744073709551616 - 1) % 18446744073709551616 = a - 1 := Word.wrap_sub ha ha2
  unfold _mi_align_down
  simp only [e1]
  exact down_gen ha ha2 h

theorem divide_up_eq (sz d : Nat) (hd : 0 < d) (h : sz + d < 2^64) :
    _mi_divide_up sz d = (sz + d - 1) / d := by
  unfold _mi_divide_up
  rw [if_neg (Nat.ne_of_gt hd), Nat.mod_eq_of_lt h, Word.wrap_sub (by omega) h]

end Align
