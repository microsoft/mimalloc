import MiVerif.Lemmas.Align
import MiVerif.Lemmas.Control
/-! `Gen.mi_segment_commit_mask` as regenerated from src/segment.c (start, size and mask of the range that is committed or purged for a
    given block range) in closed form in 64 KiB units, for both rounding directions: the request `[seg + D, seg + D + size)` becomes the
    units `[lo, hi)`; the start address is `seg + lo·64K`, the size `(hi − lo)·64K` and the mask `mk lo (hi − lo)` (the empty mask if
    `hi ≤ lo`).  Everything C07 / C13 say about ranges is arithmetic on `lo` and `hi`. -/

namespace C13L
open Gen

theorem align_down_64k (x : Nat) (hx : x < 2^64) : _mi_align_down x 65536 = x / 65536 * 65536 :=
  Align.down_eq x 65536 (by decide) hx (by decide)

theorem align_up_64k (x : Nat) (hx : x + 65536 < 2^64) : _mi_align_up x 65536 = (x + 65535) / 65536 * 65536 := by
  rw [Align.up_eq x 65536 (by decide) hx, Nat.add_sub_assoc (by decide : 1 ≤ 65536)]

theorem pstart_eq (seg D : Nat) (hD : D < 9223372036854775808) :
    ((sw64 (((seg + D : Nat) : Int) - (seg : Int))).tdiv 1 % 18446744073709551616).toNat = D :=
  Word.pdiff_eq seg D hD

/-- first unit of the request: `D` rounded up (conservative) or down (liberal) -/
def lo (cons D : Nat) : Nat := if cons ≠ 0 then (D + 65535) / 65536 else D / 65536
/-- end unit of the request: `D + size` rounded down (conservative) or up (liberal), clipped to the segment -/
def hi (cons D size slices : Nat) : Nat := min (if cons ≠ 0 then (D + size) / 65536 else (D + size + 65535) / 65536) slices

/-! the steps of the generated function after the two roundings, over variables (`k` is the 64 KiB unit) -/

theorem clip_units (j s k : Nat) : (if j * k > s * k then s * k else j * k) = min j s * k := by
  rw [Word.ite_gt_min, Nat.mul_min_mul_right, Nat.min_comm]

theorem unit_mask {α : Type} (e : α) (mk : Nat → Nat → α) (i t k : Nat) (hk : 0 < k) :
    (if (t - i) * k = 0 then e else mk (i * k / k) ((t - i) * k / k)) = if i < t then mk i (t - i) else e := by
  rw [Nat.mul_div_cancel _ hk, Nat.mul_div_cancel _ hk]
  by_cases h : i < t
  · rw [if_pos h, if_neg (Nat.ne_of_gt (Nat.mul_pos (Nat.sub_pos_of_lt h) hk))]
  · rw [if_neg h, if_pos (by rw [Nat.sub_eq_zero_of_le (Nat.le_of_not_lt h), Nat.zero_mul])]

/-- the segment header is whole units, so a start rounded to a unit at or after `D / 64K` is never moved out of it -/
theorem no_info_clip (info seg D l : Nat) (hl : D / 65536 ≤ l) :
    ¬ (D ≥ mi_segment_info_size info seg ∧ l * 65536 < mi_segment_info_size info seg) := by
  have hI : mi_segment_info_size info seg % 65536 = 0 := by unfold mi_segment_info_size; omega
  generalize mi_segment_info_size info seg = I at hI
  omega

theorem commit_mask_closed {α : Type} (e : α) (mk : Nat → Nat → α) (cin : α) (info slices seg D size cons a b c : Nat)
    (hseg : seg + 33554432 < 2^64) (hD : D < slices * 65536) (hs : slices ≤ 512) (hsz : 0 < size) (hsz2 : size ≤ 33554432) :
    mi_segment_commit_mask e 0 info (fun _ => slices * 65536) mk cin seg cons (seg + D) size a b c =
      (seg + lo cons D * 65536, (hi cons D size slices - lo cons D) * 65536,
        if lo cons D < hi cons D size slices then mk (lo cons D) (hi cons D size slices - lo cons D) else e) := by
  have hS : slices * 65536 ≤ 33554432 := Nat.mul_le_mul_right 65536 hs
  -- all that `omega` has to do, done while `slices * 65536` is the only product in sight: with `l * 65536` or `j * 65536` beside it,
  -- `omega` (and `generalize`) compare the products by unfolding the multiplication and run out of recursion depth
  have hDb : D < 33554432 := Nat.lt_of_lt_of_le hD hS
  have hacc : ¬ ((size = 0 ∨ size > 33554432) ∨ (0 : Nat) = Int.toNat (1 % 4294967296)) := by
    have : Int.toNat (1 % 4294967296) = 1 := by decide
    omega
  have hbelow : ¬ (seg + D ≥ seg + slices * 65536) := by omega
  have fitEnd : seg + slices * 65536 < 18446744073709551616 := by omega
  have fitReq : D + size < 18446744073709551616 := by omega
  have eup1 := align_up_64k D (by omega)
  have eup2 := align_up_64k (D + size) (by omega)
  have edn1 := align_down_64k D (by omega)
  have edn2 := align_down_64k (D + size) (by omega)
  have eps := pstart_eq seg D (by omega)
  -- names for the two rounded ends, in units, given while the goal is small; the one `simp only` below puts them in
  obtain ⟨l, hl, hl1, hl2⟩ : ∃ l, lo cons D = l ∧ D / 65536 ≤ l ∧ l ≤ 512 := ⟨_, rfl, by unfold lo; split <;> omega⟩
  obtain ⟨j, hj⟩ : ∃ j, (if cons ≠ 0 then (D + size) / 65536 else (D + size + 65535) / 65536) = j := ⟨_, rfl⟩
  have hst0 : (if cons ≠ 0 then (D + 65535) / 65536 * 65536 else D / 65536 * 65536) = l * 65536 := by
    rw [← hl]; unfold lo; split <;> rfl
  have hen0 : (if cons ≠ 0 then (D + size) / 65536 * 65536 else (D + size + 65535) / 65536 * 65536) = j * 65536 := by
    rw [← hj]; split <;> rfl
  unfold hi
  rw [hl, hj]
  have fitClip : min j slices * 65536 < 18446744073709551616 :=
    Nat.lt_of_le_of_lt (Nat.le_trans (Nat.mul_le_mul_right 65536 (Nat.min_le_right j slices)) hS) (by decide)
  have fitStart : seg + l * 65536 < 18446744073709551616 :=
    Nat.lt_of_le_of_lt (Nat.add_le_add_left (Nat.mul_le_mul_right 65536 hl2) seg) hseg
  unfold mi_segment_commit_mask
  -- every `% 2^64` goes in this call: a `rfl` step that `simp` leaves to the kernel next to a standing `(x + 65536) % 2^64` is
  -- decided there by 65536 unary steps
  simp only [eps, if_neg hacc, Nat.mod_eq_of_lt fitEnd, if_neg hbelow, ite_pair, Nat.mod_eq_of_lt fitReq, eup1, eup2, edn1, edn2,
    hst0, hen0, if_neg (no_info_clip info seg D l hl1), clip_units j slices 65536, Word.guarded_sub fitClip Nat.le_of_lt Nat.le_of_not_gt, Nat.mod_eq_of_lt fitStart,
    ite_self, ← Nat.sub_mul, unit_mask e mk l (min j slices) 65536 (by decide)]

theorem conservative_inside (D size slices k : Nat) (h1 : lo 1 D ≤ k) (h2 : k < hi 1 D size slices) :
    D ≤ k * 65536 ∧ (k + 1) * 65536 ≤ D + size := by
  unfold lo at h1; unfold hi at h2
  rw [if_pos (by decide)] at h1 h2
  omega

theorem liberal_range (D size slices : Nat) (hin : D + size ≤ slices * 65536) (hsz : 0 < size) :
    lo 0 D * 65536 ≤ D ∧ D + size ≤ hi 0 D size slices * 65536 ∧ hi 0 D size slices ≤ slices ∧ lo 0 D < hi 0 D size slices := by
  unfold lo hi
  rw [if_neg (by decide), if_neg (by decide)]
  omega

theorem liberal_covers (D size slices x : Nat) (hin : D + size ≤ slices * 65536) (hx1 : D ≤ x) (hx2 : x < D + size) :
    lo 0 D ≤ x / 65536 ∧ x / 65536 < hi 0 D size slices := by
  obtain ⟨hst, hen, -, -⟩ := liberal_range D size slices hin (by omega)
  omega

/-- **purging is conservative**: for a block range `[seg + D, seg + D + size)` inside a normal segment (after the info slices), the range
    that `mi_segment_purge` / `mi_segment_schedule_purge` hand to the OS (conservative = true) is empty or lies inside the freed range
    — so decommit / reset never reaches a byte of a neighbouring page -/
theorem purge_range_inside_freed_range {α : Type} (e : α) (mk : Nat → Nat → α) (cin : α)
    (info slices seg D size a b c : Nat)
    (hseg : seg + 33554432 < 2^64) (hin : D + size ≤ slices * 65536) (hs : slices ≤ 512)
    (hinfo : info * 65536 ≤ D) (hsz : 0 < size) :
    (mi_segment_commit_mask e 0 info (fun _ => slices * 65536) mk cin seg 1 (seg + D) size a b c).2.1 = 0 ∨
    (seg + D ≤ (mi_segment_commit_mask e 0 info (fun _ => slices * 65536) mk cin seg 1 (seg + D) size a b c).1 ∧
     (mi_segment_commit_mask e 0 info (fun _ => slices * 65536) mk cin seg 1 (seg + D) size a b c).1 +
       (mi_segment_commit_mask e 0 info (fun _ => slices * 65536) mk cin seg 1 (seg + D) size a b c).2.1 ≤ seg + D + size) := by
  have _ := hinfo  -- (not needed: the clip to the segment header is dead, see `no_info_clip`)
  rw [commit_mask_closed e mk cin info slices seg D size 1 a b c hseg (by omega) hs hsz (by omega)]
  simp only [lo, hi, ne_eq, Nat.succ_ne_zero, not_false_eq_true, if_true]
  omega

end C13L
