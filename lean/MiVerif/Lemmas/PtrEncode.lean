import MiVerif.Gen.Secure
import MiVerif.Lemmas.Word
/-! Free-list link encoding of hardened builds: the rotate / encode / decode law on clean definitions (`PtrEnc`: `dec (enc p) = p`), and
    the bridge from the regenerated secure-mode functions to it (`C17L`). -/
namespace PtrEnc
def rotl (x s : Nat) : Nat :=
  let s := s % 64
  if s = 0 then x else ((x * 2^s) % 2^64) ||| (x / 2^(64 - s))
def rotr (x s : Nat) : Nat :=
  let s := s % 64
  if s = 0 then x else (x / 2^s) ||| ((x * 2^(64 - s)) % 2^64)

/-- An `n`-bit word is `2^b * hi + lo` with `a` high and `b` low bits, `a + b = n`.  Rotating it left by `a` (shifting within `n` bits and
    or-ing in the bits shifted out) exchanges the two parts (`2^a * lo + hi`); the same with `a` and `b` interchanged exchanges them back. -/
theorem exchange_twice {a b n x : Nat} (hn : a + b = n) (hx : x < 2^n) :
    ((x * 2^a) % 2^n ||| x / 2^b) / 2^a ||| (((x * 2^a) % 2^n ||| x / 2^b) * 2^b) % 2^n = x := by
  subst hn
  have hhi : x / 2^b < 2^a := Nat.div_lt_of_lt_mul (by rw [← Nat.pow_add, Nat.add_comm]; exact hx)
  have hlo : x % 2^b < 2^b := Nat.mod_lt _ (Nat.two_pow_pos b)
  have once : (x * 2^a) % 2^(a+b) ||| x / 2^b = 2^a * (x % 2^b) + x / 2^b := by
    rw [Nat.add_comm a b, Nat.pow_add, Nat.mul_mod_mul_right, Nat.mul_comm, Nat.two_pow_add_eq_or_of_lt hhi]
  -- of `2^a * lo + hi` the high part is `lo` and the low part `hi`, so the second exchange gives `lo ||| hi * 2^b`
  rw [once, Nat.mul_add_div (Nat.two_pow_pos a), Nat.div_eq_of_lt hhi, Nat.add_zero,
    Nat.pow_add, Nat.mul_mod_mul_right, Nat.mul_add_mod, Nat.mod_eq_of_lt hhi,
    Nat.or_comm, Nat.mul_comm, ← Nat.two_pow_add_eq_or_of_lt hlo, Nat.div_add_mod]

theorem rotr_rotl (x s : Nat) (hx : x < 2^64) : rotr (rotl x s) s = x := by
  unfold rotr rotl
  by_cases h : s % 64 = 0
  · simp only [if_pos h]
  · have hs : s % 64 ≤ 64 := Nat.le_of_lt (Nat.mod_lt s (by decide))
    simp only [if_neg h]
    exact exchange_twice (Nat.add_sub_cancel' hs) hx

theorem rotl_lt (x s : Nat) (hx : x < 2^64) : rotl x s < 2^64 := by
  unfold rotl
  dsimp only
  split
  · exact hx
  · apply Nat.or_lt_two_pow
    · exact Nat.mod_lt _ (by decide)
    · exact Nat.lt_of_le_of_lt (Nat.div_le_self _ _) hx

-- with the argument order and the placement of `% 2^64` of the generated `mi_ptr_encode` / `mi_ptr_decode`, so that `gen_enc`, `gen_dec` are
-- an `unfold` and `gen_rotl` / `gen_rotr`
def enc (null p k0 k1 : Nat) : Nat :=
  let x := if p = 0 then null else p
  (rotl (x ^^^ k1) k0 + k0) % 2^64
def dec (null e k0 k1 : Nat) : Nat :=
  let p := rotr ((e + 2^64 - k0) % 2^64) k0 ^^^ k1
  if p = null then 0 else p

theorem dec_enc (null p k0 k1 : Nat) (hn : null < 2^64) (hp : p < 2^64) (h0 : k0 < 2^64) (h1 : k1 < 2^64) :
    dec null (enc null p k0 k1) k0 k1 = if p = 0 ∨ p = null then 0 else p := by
  unfold dec enc
  generalize hx : (if p = 0 then null else p) = x
  have hm : x ^^^ k1 < 2^64 := Nat.xor_lt_two_pow (by rw [← hx]; split <;> assumption) h1
  rw [Word.add_sub_wrap (rotl_lt _ k0 hm) h0, rotr_rotl _ _ hm, Nat.xor_assoc, Nat.xor_self, Nat.xor_zero, ← hx]
  by_cases hp0 : p = 0 <;> simp [hp0]
end PtrEnc

namespace C17L
open GenS PtrEnc

/-- the complementary shift `64 - shift` of the C code, computed on `size_t` -/
theorem shift_compl (s : Nat) : (64 + 18446744073709551616 - s % 64) % 18446744073709551616 = 64 - s % 64 :=
  Word.wrap_sub (Nat.le_of_lt (Nat.mod_lt s (by decide))) (by decide)

theorem gen_rotl (x s : Nat) : mi_rotl x s = rotl x s := by
  unfold mi_rotl rotl
  simp only [shift_compl]

theorem gen_rotr (x s : Nat) : mi_rotr x s = rotr x s := by
  unfold mi_rotr rotr
  simp only [shift_compl]

theorem gen_enc (k1 k0 null p a : Nat) : mi_ptr_encode k1 k0 null p a = enc null p k0 k1 := by
  unfold mi_ptr_encode enc; simp only [gen_rotl]

theorem gen_dec (k0 k1 null x a : Nat) : mi_ptr_decode k0 k1 null x a = dec null x k0 k1 := by
  unfold mi_ptr_decode dec; simp only [gen_rotr]

theorem decode_encode (null p k0 k1 a b : Nat) (hn : null < 2^64) (hp : p < 2^64) (h0 : k0 < 2^64) (h1 : k1 < 2^64) :
    mi_ptr_decode k0 k1 null (mi_ptr_encode k1 k0 null p a) b = if p = 0 ∨ p = null then 0 else p := by
  rw [gen_enc, gen_dec]; exact dec_enc null p k0 k1 hn hp h0 h1

theorem decode_encode_link {page next k0 k1 a b : Nat} (hpg : page < 2^64) (hnx : next < 2^64)
    (h0 : k0 < 2^64) (h1 : k1 < 2^64) (hne : next ≠ page) :
    mi_ptr_decode k0 k1 page (mi_ptr_encode k1 k0 page next a) b = next := by
  rw [decode_encode page next k0 k1 a b hpg hnx h0 h1]
  by_cases h : next = 0
  · rw [if_pos (Or.inl h), h]
  · rw [if_neg (fun o => o.elim h hne)]

end C17L
