import MiVerif.Gen.Prelude
/-! Rules for the control structures of the regenerated C functions.  The branches of a generated function are walked with core's
    `iteInduction` and an explicit motive, because `split` on a large unfolded function is many times dearer; `ite_append` (a
    conditional append to an effect log) and `ite_pair` (two variables assigned in both branches) move an `if` inwards.  For loops:
    beside `whileN_inv` (Gen/Prelude.lean, the invariant rule, every fuel), the exact result of a `whileN` loop that has fuel enough. -/

theorem ite_append {α : Type} (c : Prop) [Decidable c] (l x : List α) : (if c then l ++ x else l) = l ++ if c then x else [] := by
  split
  · rfl
  · exact (List.append_nil l).symm

theorem ite_pair {α β : Type} (c : Prop) [Decidable c] (a a' : α) (b b' : β) :
    (if c then (a, b) else (a', b')) = (if c then a else a', if c then b else b') := by
  split <;> rfl

/-- what holds of every entry of an effect log and of the entry appended to it -/
theorem forall_mem_snoc {α : Type} {p : α → Prop} {l : List α} {x : α} (hl : ∀ c ∈ l, p c) (hx : p x) : ∀ c ∈ l ++ [x], p c :=
  List.forall_mem_append.mpr ⟨hl, List.forall_mem_singleton.mpr hx⟩

variable {σ : Type} {c : σ → Bool} {body : σ → σ}

theorem whileN_of_false {s : σ} (h : c s = false) (n : Nat) : whileN n c body s = s := by
  cases n with
  | zero => rfl
  | succ n => unfold whileN; rw [h]; rfl

theorem whileN_of_true {s : σ} (h : c s = true) (n : Nat) : whileN (n + 1) c body s = whileN n c body (body s) := by
  rw [whileN, if_pos h]

/-- Induction along a loop that has fuel enough. Read `Q m s t` as "started in `s` with at most `m` rounds to go, the loop ends in `t`":
    it holds of `t = s` when the condition fails, follows for `m + 1` and `s` from `m` and `body s` when the condition holds, and its
    hypotheses on `s` must rule out that the condition holds with no round to go. -/
theorem whileN_rec (Q : Nat → σ → σ → Prop)
    (hstop : ∀ m s, c s = false → Q m s s)
    (hzero : ∀ s t, c s = true → Q 0 s t)
    (hstep : ∀ m s t, c s = true → Q m (body s) t → Q (m + 1) s t) :
    ∀ (m n : Nat) (s : σ), m ≤ n → Q m s (whileN n c body s) := by
  intro m
  induction m with
  | zero =>
    intro n s _
    cases hc : c s with
    | false => rw [whileN_of_false hc]; exact hstop 0 s hc
    | true => exact hzero s _ hc
  | succ m ih =>
    intro n s hn
    cases hc : c s with
    | false => rw [whileN_of_false hc]; exact hstop _ s hc
    | true =>
      obtain ⟨n, rfl⟩ : ∃ k, n = k + 1 := ⟨n - 1, by omega⟩
      rw [whileN_of_true hc]
      exact hstep m s _ hc (ih n (body s) (by omega))
