import MiVerif.Model.Segment
/-! Representation invariant of the slice map w.r.t. a ghost span list.  The proofs about the operations rest on two notions:
    `Chain` (the ghost list tiles an index range) and `EqOutside a b g g'` (the writes that lead from `g` to `g'` all fall
    inside `[a, b)`); `Hole` (the invariant outside `[a, b)`) puts them together. -/
namespace SegM

abbrev Span := Nat × Nat × Bool      -- start, count, used

/-- contiguous chain of spans from `i` ending at `e` -/
inductive Chain : Nat → List Span → Nat → Prop where
  | nil (i) : Chain i [] i
  | cons {i c u rest e} : 0 < c → Chain (i + c) rest e → Chain i ((i, c, u) :: rest) e

theorem Chain.bounds {i e : Nat} {sp : List Span} (h : Chain i sp e) :
    i ≤ e ∧ ∀ x ∈ sp, i ≤ x.1 ∧ x.1 + x.2.1 ≤ e ∧ 0 < x.2.1 := by
  induction h with
  | nil i => exact ⟨Nat.le_refl _, by intro x hx; cases hx⟩
  | cons hc _ ih =>
    obtain ⟨hle, hrest⟩ := ih
    refine ⟨by omega, ?_⟩
    intro x hx
    rcases List.mem_cons.mp hx with rfl | hx
    · exact ⟨Nat.le_refl _, hle, hc⟩
    · obtain ⟨hlo, hhi, hpos⟩ := hrest x hx
      exact ⟨by omega, hhi, hpos⟩

/-- two members of a chain are equal or have disjoint index ranges -/
theorem Chain.disjoint {i e : Nat} {sp : List Span} (h : Chain i sp e) :
    ∀ x ∈ sp, ∀ y ∈ sp, x = y ∨ x.1 + x.2.1 ≤ y.1 ∨ y.1 + y.2.1 ≤ x.1 := by
  induction h with
  | nil i => intro x hx; cases hx
  | cons hc hrest ih =>
    intro x hx y hy
    have hb := hrest.bounds
    rcases List.mem_cons.mp hx with rfl | hx <;> rcases List.mem_cons.mp hy with rfl | hy
    · left; rfl
    · right; left; exact (hb.2 y hy).1
    · right; right; exact (hb.2 x hx).1
    · exact ih x hx y hy

theorem Chain.append {i m e : Nat} {a b : List Span} (h1 : Chain i a m) (h2 : Chain m b e) : Chain i (a ++ b) e := by
  induction h1 with
  | nil i => simpa using h2
  | cons hc _ ih => exact Chain.cons hc (ih h2)

/-- a chain through `pre ++ x :: post` passes through the start of `x` -/
theorem Chain.split_at {i e : Nat} {pre post : List Span} {x : Span} (h : Chain i (pre ++ x :: post) e) :
    Chain i pre x.1 ∧ Chain x.1 (x :: post) e := by
  induction pre generalizing i with
  | nil =>
    cases h with
    | cons hc hr => exact ⟨Chain.nil _, Chain.cons hc hr⟩
  | cons p ps ih =>
    cases h with
    | cons hc hr =>
      obtain ⟨a, b⟩ := ih hr
      exact ⟨Chain.cons hc a, b⟩

/-- coalescing two adjacent spans keeps the chain (any flag for the merged span) -/
theorem Chain.merge {i e a ca cb : Nat} {ua ub u : Bool} {pre post : List Span}
    (h : Chain i (pre ++ (a, ca, ua) :: (a + ca, cb, ub) :: post) e) :
    Chain i (pre ++ (a, ca + cb, u) :: post) e := by
  obtain ⟨h1, _ | ⟨hca, _ | ⟨hcb, hr⟩⟩⟩ := h.split_at
  exact h1.append (Chain.cons (by omega) (by rw [← Nat.add_assoc]; exact hr))

/-- splitting a span in two keeps the chain -/
theorem Chain.split {i e a c k : Nat} {u u1 u2 : Bool} {pre post : List Span}
    (h : Chain i (pre ++ (a, c, u) :: post) e) (hk : 0 < k) (hkc : k < c) :
    Chain i (pre ++ (a, k, u1) :: (a + k, c - k, u2) :: post) e := by
  obtain ⟨h1, _ | ⟨hc, hr⟩⟩ := h.split_at
  have : a + k + (c - k) = a + c := by omega
  exact h1.append (Chain.cons hk (Chain.cons (by omega) (by rw [this]; exact hr)))

/-- changing only the flag -/
theorem Chain.reflag {i e a c : Nat} {u u' : Bool} {pre post : List Span}
    (h : Chain i (pre ++ (a, c, u) :: post) e) : Chain i (pre ++ (a, c, u') :: post) e := by
  obtain ⟨h1, _ | ⟨hc, hr⟩⟩ := h.split_at
  exact h1.append (Chain.cons hc hr)

/-- the span before position `a` in a chain ends exactly at `a`: this is what `mi_slice_first(slice − 1)` finds -/
theorem Chain.prev_ends {i e ps pc xs xc : Nat} {pu xu : Bool} {pre post : List Span}
    (h : Chain i (pre ++ (ps, pc, pu) :: (xs, xc, xu) :: post) e) : ps + pc = xs := by
  obtain ⟨_, _ | ⟨_, _ | ⟨_, _⟩⟩⟩ := h.split_at
  rfl

theorem Chain.last_ends {i e s c : Nat} {u : Bool} {pre : List Span} (h : Chain i (pre ++ [(s, c, u)]) e) : s + c = e := by
  obtain ⟨_, _ | ⟨_, _ | _⟩⟩ := h.split_at
  rfl

theorem get_set_self (g : Seg) (i : Nat) (v : Slice) (hi : i < g.slices.size) : get (set g i v) i = v := by
  unfold get set
  simp [hi]

/-- also for `i` out of bounds, where `set` does nothing -/
theorem get_set_ne (g : Seg) {i j : Nat} (v : Slice) (h : i ≠ j) : get (set g i v) j = get g j := by
  unfold get set
  simp [Array.set!_eq_setIfInBounds, Array.getElem!_eq_getD, Array.getD_eq_getD_getElem?, h]

theorem get_set (g : Seg) (i j : Nat) (v : Slice) (hi : i < g.slices.size) :
    get (set g i v) j = if i = j then v else get g j := by
  split
  · subst ‹i = j›
    exact get_set_self g i v hi
  · exact get_set_ne g v ‹_›

@[simp] theorem set_entries (g : Seg) (i : Nat) (v : Slice) : (set g i v).entries = g.entries := rfl
@[simp] theorem set_size (g : Seg) (i : Nat) (v : Slice) : (set g i v).slices.size = g.slices.size := by
  unfold set; simp
@[simp] theorem set_queues (g : Seg) (i : Nat) (v : Slice) : (set g i v).queues = g.queues := rfl
@[simp] theorem set_used (g : Seg) (i : Nat) (v : Slice) : (set g i v).used = g.used := rfl

theorem get_queues_irrel (g : Seg) (q : Array (List Nat)) (j : Nat) : get { g with queues := q } j = get g j := rfl

/-- `g'` has the geometry of `g` and the same slice entries outside `[a, b)`: what any sequence of writes into `[a, b)` leaves
    (queues and the `used` counter are not looked at) -/
structure EqOutside (a b : Nat) (g g' : Seg) : Prop where
  entries : g'.entries = g.entries
  size    : g'.slices.size = g.slices.size
  outside : ∀ j, j < a ∨ b ≤ j → get g' j = get g j

theorem EqOutside.refl (a b : Nat) (g : Seg) : EqOutside a b g g := ⟨rfl, rfl, fun _ _ => rfl⟩

theorem EqOutside.trans {a b : Nat} {g g' g'' : Seg} (h : EqOutside a b g g') (h' : EqOutside a b g' g'') : EqOutside a b g g'' :=
  ⟨h'.entries.trans h.entries, h'.size.trans h.size, fun j hj => (h'.outside j hj).trans (h.outside j hj)⟩

theorem EqOutside.sized {a b : Nat} {g g' : Seg} (h : EqOutside a b g g') (hsz : g.slices.size = g.entries + 1) :
    g'.slices.size = g'.entries + 1 := by rw [h.size, h.entries]; exact hsz

theorem set_eqOutside {a b i : Nat} {g : Seg} {v : Slice} (ha : a ≤ i) (hb : i < b) : EqOutside a b g (set g i v) :=
  ⟨rfl, set_size g i v, fun _ hj => get_set_ne g v (by omega)⟩

theorem used_eqOutside {a b u : Nat} {g : Seg} : EqOutside a b g { g with used := u } := ⟨rfl, rfl, fun _ _ => rfl⟩

theorem queues_eqOutside {a b : Nat} {g : Seg} {q : Array (List Nat)} : EqOutside a b g { g with queues := q } := ⟨rfl, rfl, fun _ _ => rfl⟩

/-- what the code guarantees about the entries of one span (queue membership is left out) -/
def SpanOk (g : Seg) (x : Span) : Prop :=
  let s := x.1; let c := x.2.1; let u := x.2.2
  (get g s).count = c ∧ (get g s).off = 0 ∧ ((get g s).bs > 0 ↔ u = true) ∧
  (c > 1 → (get g (s + c - 1)).off = c - 1 ∧ (get g (s + c - 1)).count = 0 ∧
           ((get g (s + c - 1)).bs > 0 ↔ u = true)) ∧
  (u = true → ∀ k, 1 ≤ k → k ≤ min (c - 1) 255 → (get g (s + k)).off = k ∧ (get g (s + k)).count = 0 ∧ (get g (s + k)).bs = 1)

structure Repr (g : Seg) (sp : List Span) : Prop where
  size  : g.slices.size = g.entries + 1
  chain : Chain 0 sp g.entries
  ok    : ∀ x ∈ sp, SpanOk g x

theorem Repr.count {g : Seg} {sp : List Span} {s c : Nat} {u : Bool} (hr : Repr g sp) (hm : (s, c, u) ∈ sp) : (get g s).count = c :=
  (hr.ok _ hm).1

theorem SpanOk.of_used {g : Seg} {s l b : Nat} (hb : 0 < b) (h0 : get g s = { count := l + 1, off := 0, bs := b })
    (hf : ∀ k, 1 ≤ k → k ≤ min l 255 ∨ k = l → get g (s + k) = { count := 0, off := k, bs := 1 }) :
    SpanOk g (s, l + 1, true) := by
  unfold SpanOk
  simp only [Nat.add_sub_cancel, ← Nat.add_assoc]
  rw [h0]
  refine ⟨rfl, rfl, iff_of_true hb trivial, fun hc1 => ?_, fun _ k hk1 hk2 => ?_⟩
  · rw [hf l (by omega) (Or.inr rfl)]
    exact ⟨rfl, rfl, iff_of_true Nat.one_pos trivial⟩
  · rw [hf k hk1 (Or.inl hk2)]
    exact ⟨rfl, rfl, rfl⟩

theorem SpanOk.of_free {g : Seg} {s c : Nat} (h0 : get g s = { count := c, off := 0, bs := 0 })
    (hl : c > 1 → get g (s + c - 1) = { count := 0, off := c - 1, bs := 0 }) : SpanOk g (s, c, false) := by
  have hfree : ((0 : Nat) > 0 ↔ false = true) := iff_of_false (Nat.lt_irrefl 0) Bool.false_ne_true
  unfold SpanOk
  dsimp only
  rw [h0]
  refine ⟨rfl, rfl, hfree, fun hc => ?_, nofun⟩
  rw [hl hc]
  exact ⟨rfl, rfl, hfree⟩

/-- the free test of the code (`block_size == 0` on the first slice of a span) reads the ghost flag -/
theorem SpanOk.bs_eq_zero {g : Seg} {s c : Nat} {u : Bool} (h : SpanOk g (s, c, u)) : decide ((get g s).bs = 0) = !u := by
  have hbs : (get g s).bs > 0 ↔ u = true := h.2.2.1
  cases u
  · exact decide_eq_true (Nat.eq_zero_of_not_pos (mt hbs.1 Bool.false_ne_true))
  · exact decide_eq_false (Nat.ne_of_gt (hbs.2 rfl))

/-- `mi_slice_first(slice − 1)` finds the start of the span that ends before `slice`: the last slice of a span holds the offset back
    to its first, and a span of one slice holds 0 there -/
theorem sliceFirst_prev {g : Seg} {ps pc : Nat} {pu : Bool} (hpc : 0 < pc) (hx : SpanOk g (ps, pc, pu)) : sliceFirst g (ps + pc - 1) = ps := by
  have hoff : (get g (ps + pc - 1)).off = pc - 1 := by
    by_cases h1 : pc > 1
    · exact (hx.2.2.2.1 h1).1
    · obtain rfl : pc = 1 := by omega
      exact hx.2.1
  unfold sliceFirst
  rw [hoff]
  omega

theorem SpanOk.congr {g g' : Seg} {z : Span} (hz0 : 0 < z.2.1) (h : ∀ j, z.1 ≤ j → j < z.1 + z.2.1 → get g' j = get g j)
    (hok : SpanOk g z) : SpanOk g' z := by
  obtain ⟨zs, zc, zu⟩ := z
  unfold SpanOk
  dsimp only at hz0 h ⊢
  rw [h zs (Nat.le_refl _) (Nat.lt_add_of_pos_right hz0)]
  refine ⟨hok.1, hok.2.1, hok.2.2.1, fun hc => ?_, fun hu k hk1 hk2 => ?_⟩
  · rw [h (zs + zc - 1) (by omega) (by omega)]
    exact hok.2.2.2.1 hc
  · rw [h (zs + k) (by omega) (by omega)]
    exact hok.2.2.2.2 hu k hk1 hk2

theorem EqOutside.spanOk {a b : Nat} {g g' : Seg} (h : EqOutside a b g g') {z : Span} (hz0 : 0 < z.2.1)
    (hdis : z.1 + z.2.1 ≤ a ∨ b ≤ z.1) (hok : SpanOk g z) : SpanOk g' z :=
  hok.congr hz0 fun j _ _ => h.outside j (by omega)

/-- **the invariant with a hole**: `pre` tiles `[0, a)`, `post` tiles `[b, entries)` and their spans are well formed; nothing is said
    about `[a, b)`.  This is how `Repr` is followed through an operation: open the hole around the spans the operation works on
    (`Repr.hole`), keep it through every write that falls inside (`write`), shrink it when a span at its edge is finished
    (`shrink_left`, `shrink_right`); a hole that has become empty is `Repr` again (`closed`). -/
structure Hole (g : Seg) (pre post : List Span) (a b : Nat) : Prop where
  size  : g.slices.size = g.entries + 1
  left  : Chain 0 pre a
  right : Chain b post g.entries
  ok    : ∀ z, z ∈ pre ∨ z ∈ post → SpanOk g z

variable {g g' : Seg} {pre old post : List Span} {a a' b b' n : Nat} {u : Bool}

theorem Repr.hole (hr : Repr g (pre ++ (old ++ post))) (hpre : Chain 0 pre a) (hpost : Chain b post g.entries) : Hole g pre post a b :=
  ⟨hr.size, hpre, hpost, fun z hz => hr.ok z (by simp only [List.mem_append]; exact hz.imp_right Or.inr)⟩

theorem Hole.empty (hsz : g.slices.size = g.entries + 1) : Hole g [] [] 0 g.entries :=
  ⟨hsz, .nil 0, .nil _, fun _ hz => by simp at hz⟩

theorem Hole.fit (H : Hole g pre post a b) : b ≤ g.entries := H.right.bounds.1

theorem Hole.write (H : Hole g pre post a b) (hw : EqOutside a b g g') : Hole g' pre post a b := by
  refine ⟨hw.sized H.size, H.left, hw.entries ▸ H.right, fun z hz => ?_⟩
  rcases hz with hz | hz
  · have := H.left.bounds.2 z hz
    exact hw.spanOk this.2.2 (Or.inl this.2.1) (H.ok z (Or.inl hz))
  · have := H.right.bounds.2 z hz
    exact hw.spanOk this.2.2 (Or.inr this.1) (H.ok z (Or.inr hz))

theorem Hole.shrink_left (H : Hole g pre post a b) (hn : 0 < n) (ha : a + n = a') (hok : SpanOk g (a, n, u)) :
    Hole g (pre ++ [(a, n, u)]) post a' b :=
  ⟨H.size, H.left.append (.cons hn (ha ▸ .nil _)), H.right, fun z hz => by
    rcases hz with hz | hz
    · rcases List.mem_append.mp hz with hz | hz
      · exact H.ok z (Or.inl hz)
      · exact List.mem_singleton.mp hz ▸ hok
    · exact H.ok z (Or.inr hz)⟩

theorem Hole.shrink_right (H : Hole g pre post a b) (hn : 0 < n) (hb : b' + n = b) (hok : SpanOk g (b', n, u)) :
    Hole g pre ((b', n, u) :: post) a b' :=
  ⟨H.size, H.left, .cons hn (hb ▸ H.right), fun z hz => by
    rcases hz with hz | hz
    · exact H.ok z (Or.inl hz)
    · rcases List.mem_cons.mp hz with rfl | hz
      · exact hok
      · exact H.ok z (Or.inr hz)⟩

theorem Hole.closed (H : Hole g pre post a a) : Repr g (pre ++ post) :=
  ⟨H.size, H.left.append H.right, fun z hz => H.ok z (List.mem_append.mp hz)⟩

end SegM
