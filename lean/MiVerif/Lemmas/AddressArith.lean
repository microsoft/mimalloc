import MiVerif.Gen.Tables
import MiVerif.Lemmas.Bits
/-! overflow-checked multiply, span bins (`mi_slice_bin` as `quad`), pointer → block start, fast division (`div_magic`) -/

namespace C16L
open Gen

/-! ### overflow-detecting multiply -/

theorem count_size_eq (c s t : Nat) :
    mi_count_size_overflow c s t =
      if c = 1 then (0, s) else if 2^64 ≤ c * s then (1, 18446744073709551615) else (0, c * s) := by
  unfold mi_count_size_overflow mi_mul_overflow umull_overflow
  by_cases h1 : c = 1
  · simp only [if_pos h1]; rfl
  · by_cases h2 : c * s ≥ 2^64
    · simp [h1, h2]
    · simp [h1, h2, Nat.mod_eq_of_lt (Nat.lt_of_not_ge h2)]

theorem count_size_of_ge {c s t : Nat} (hs : s < 2^64) (h : 2^64 ≤ c * s) :
    mi_count_size_overflow c s t = (1, 18446744073709551615) := by
  rw [count_size_eq, if_neg (by intro e; subst e; omega), if_pos h]

theorem count_size_of_lt {c s t : Nat} (h : c * s < 2^64) : mi_count_size_overflow c s t = (0, c * s) := by
  rw [count_size_eq, if_neg (Nat.not_le.2 h)]
  split
  · subst c; rw [Nat.one_mul]
  · rfl

theorem count_size (c s t : Nat) (hc : c < 2^64) (hs : s < 2^64) :
    ((mi_count_size_overflow c s t).1 = 1 ↔ 2^64 ≤ c * s) ∧
    ((mi_count_size_overflow c s t).1 = 0 ∨ (mi_count_size_overflow c s t).1 = 1) ∧
    ((mi_count_size_overflow c s t).1 = 0 → (mi_count_size_overflow c s t).2 = c * s) := by
  have _ := hc  -- (not needed)
  by_cases h : 2^64 ≤ c * s
  · rw [count_size_of_ge hs h]
    exact ⟨iff_of_true rfl h, Or.inr rfl, fun h0 => absurd h0 Nat.one_ne_zero⟩
  · rw [count_size_of_lt (Nat.lt_of_not_le h)]
    exact ⟨iff_of_false Nat.zero_ne_one h, Or.inl rfl, fun _ => rfl⟩

/-! ### span bins -/

theorem slice_small : ∀ c, c < 9 → mi_slice_bin c = c := by decide

theorem slice_big (c : Nat) (h9 : 9 ≤ c) (h : c < 2^64) : mi_slice_bin c = quad (c - 1) - 4 := by
  have hv : c - 1 ≠ 0 := by omega
  obtain ⟨hb3, hb63⟩ := log2_range (c - 1) 3 63 (by omega) (by omega)
  have e1 : (c + 18446744073709551616 - 1) % 18446744073709551616 = c - 1 := Word.wrap_sub (by omega) h
  have hq := quad_ge (c - 1)
  have hq' := quad_lt (c - 1)
  unfold mi_slice_bin mi_slice_bin8
  simp only [if_neg (show ¬ c ≤ 1 by omega), e1, bsr_eq (c - 1) hv (by omega), if_neg (show ¬ Nat.log2 (c - 1) ≤ 2 by omega),
    (quad_gen (c - 1) (by omega) (by omega)).2]
  exact Word.wrap_sub (by omega) (by omega)

theorem span_formula : ∀ s, s < 9 → ∀ q, q < 4 → 3 ≤ s →
    spanQueueTable.getD (4 * s + q - 4) 0 = (5 + q) * 2^(s-2) := by decide

theorem span_small : ∀ c, c < 9 → c ≤ spanQueueTable.getD c 0 := by decide

theorem slice_bin_ok (c : Nat) (hc : c ≤ 512) :
    mi_slice_bin c ≤ 35 ∧ c ≤ spanQueueTable.getD (mi_slice_bin c) 0 := by
  rcases Nat.lt_or_ge c 9 with h8 | h9
  · rw [slice_small c h8]
    exact ⟨by omega, span_small c h8⟩
  · obtain ⟨s, q, hs3, hs8, hq, e, _, hY⟩ := quad_spec (c - 1) 3 8 (by decide) (by omega) (by omega)
    rw [slice_big c h9 (by omega), e, span_formula s (by omega) q hq hs3]
    omega

theorem slice_bin_mono (a b : Nat) (h : a ≤ b) (hb : b < 2^64) : mi_slice_bin a ≤ mi_slice_bin b := by
  rcases Nat.lt_or_ge b 9 with h8 | h9
  · rw [slice_small a (by omega), slice_small b h8]; exact h
  · rw [slice_big b h9 hb]
    rcases Nat.lt_or_ge a 9 with g8 | g9
    · -- `a ≤ 8` and `b - 1 ≥ 2^3`
      have hq := quad_ge (b - 1)
      have hl : 3 ≤ Nat.log2 (b - 1) := (Nat.le_log2 (by omega)).mpr (by omega)
      rw [slice_small a (by omega)]; omega
    · have := quad_mono (show 4 ≤ a - 1 by omega) (show a - 1 ≤ b - 1 by omega)
      rw [slice_big a g9 (by omega)]; omega

/-! ### pointer arithmetic -/

theorem unalign_eq (start bsize shift page D : Nat) (hD : start + D < 2^63)
    (hshift : shift ≠ 0 → bsize = 2^shift ∧ shift < 64) :
    _mi_page_ptr_unalign start shift bsize page (start + D) = start + D - D % bsize := by
  have hD' : D < 9223372036854775808 := by omega
  have hm : D % bsize ≤ D := Nat.mod_le _ _
  have hp : start + D < 18446744073709551616 := by omega
  unfold _mi_page_ptr_unalign mi_page_block_size
  simp only [Word.pdiff_eq start D hD', Int.toNat_natCast, Nat.one_mul]
  by_cases h0 : shift = 0
  · subst h0
    simp only [Int.natCast_zero, ne_eq, not_true_eq_false, if_false]
    exact Word.wrap_sub (by omega) hp
  · obtain ⟨hbs, hs64⟩ := hshift h0
    have hc : ((shift : Nat) : Int) ≠ 0 := by omega
    have hlt : 2^shift < 18446744073709551616 := Nat.pow_lt_pow_right (by decide) hs64
    have hpos : 0 < 2^shift := Nat.two_pow_pos _
    simp only [if_pos hc, Nat.mod_eq_of_lt hlt, Word.wrap_sub hpos hlt, Nat.and_two_pow_sub_one_eq_mod]
    rw [← hbs]
    exact Word.wrap_sub (by omega) hp

theorem ptr_segment_eq (p : Nat) (h0 : 0 < p) (hp : p ≤ 2^63) : _mi_ptr_segment p = (p - 1) / 33554432 * 33554432 := by
  have e1 : (p + 18446744073709551616 - 1) % 18446744073709551616 = p - 1 := Word.wrap_sub h0 (by omega)
  have hle := Nat.div_mul_le_self (p - 1) 33554432
  unfold _mi_ptr_segment
  simp only [e1, show (18446744073675997184 : Nat) = 2^64 - 2^25 from rfl, and_hi_mask (p - 1) 25 (by decide) (by omega),
    Word.sw64_small _ (show (p - 1) / 2^25 * 2^25 < 9223372036854775808 by omega)]
  -- the sign test of the code: where `p - 1` rounded down is 0 it returns NULL, which is 0 again
  split
  · omega
  · rfl

/-! ### fast division -/

theorem div_magic (n d s : Nat) (hd : 0 < d) (hs1 : d ≤ 2^s) (hn : n < 2^32) :
    (n * ((2^32 * 2^s) / d + 1)) / (2^32 * 2^s) = n / d := by
  -- with `K = 2^32·2^s`, `m = K / d + 1` and `e = d − K % d`: `m·d = K + e`, so `n·m·d = n·K + n·e` lies in `[(n / d)·d·K, (n / d + 1)·d·K)`,
  -- the upper bound because `n·e < K` (as `e ≤ d ≤ 2^s` and `n < 2^32`)
  have hne : n * (d - 2^32 * 2^s % d) < 2^32 * 2^s :=
    Nat.lt_of_le_of_lt (Nat.mul_le_mul_left _ (Nat.le_trans (Nat.sub_le _ _) hs1)) (Nat.mul_lt_mul_of_pos_right hn (Nat.two_pow_pos _))
  generalize 2^32 * 2^s = K at *
  have hdm := Nat.div_add_mod K d
  have hmod : K % d < d := Nat.mod_lt _ hd
  have hq := Nat.div_add_mod n d
  have hnm : n % d < d := Nat.mod_lt _ hd
  have hmd : (K / d + 1) * d = K + (d - K % d) := by rw [Nat.succ_mul, Nat.mul_comm]; omega
  have hx : n * (K / d + 1) * d = n * K + n * (d - K % d) := by rw [Nat.mul_assoc, hmd, Nat.mul_add]
  have hlo : n / d * K * d ≤ n * K := by
    rw [Nat.mul_right_comm]; exact Nat.mul_le_mul_right K (by rw [Nat.mul_comm]; omega)
  have hhi : n * K + K ≤ (n / d + 1) * K * d := by
    rw [Nat.mul_right_comm, ← Nat.succ_mul]; exact Nat.mul_le_mul_right K (by rw [Nat.succ_mul, Nat.mul_comm]; omega)
  apply Nat.div_eq_of_lt_le
  · exact Nat.le_of_mul_le_mul_right (by omega) hd
  · exact Nat.lt_of_mul_lt_mul_right (a := d) (by omega)

/-- the code keeps `magic − 2^32` (it fits 32 bits) and adds `n` back after the shift by 32 -/
theorem fdiv_correct (n d s : Nat) (hd : 0 < d) (hs1 : d ≤ 2^s) (hn : n < 2^32) :
    (n * (2^32 * (2^s - d) / d + 1) / 2^32 + n) / 2^s = n / d := by
  have e1 : (2^32 * (2^s - d)) / d = (2^32 * 2^s) / d - 2^32 := by
    rw [Nat.mul_sub, Nat.mul_comm (2^32) d, Nat.sub_mul_div_of_le]
    rw [Nat.mul_comm d]; exact Nat.mul_le_mul_left _ hs1
  have hge : 2^32 ≤ (2^32 * 2^s) / d := by
    rw [Nat.le_div_iff_mul_le hd]
    exact Nat.mul_le_mul_left _ hs1
  have e2 : n * ((2^32 * 2^s) / d + 1) = n * ((2^32 * 2^s) / d - 2^32 + 1) + n * 2^32 := by
    rw [← Nat.mul_add]; congr 1; omega
  rw [e1, ← Nat.add_mul_div_right _ _ (by decide : 0 < 2^32), ← e2, Nat.div_div_eq_div_mul]
  exact div_magic n d s hd hs1 hn

theorem fast_divisor_eq (d : Nat) (hd : 0 < d) (hd2 : d < 2^32) :
    ∃ s, d ≤ 2^s ∧ 2^32 * (2^s - d) / d + 1 ≤ 2^32 ∧ mi_get_fast_divisor d 1 1 = (2^32 * (2^s - d) / d + 1, s) := by
  have e1 : (d + 18446744073709551616 - 1) % 18446744073709551616 = d - 1 := Word.wrap_sub hd (by omega)
  obtain ⟨s, es, hs1, hs2⟩ := bits_pred d hd (by omega)
  refine ⟨s, hs1, ?_⟩
  unfold mi_get_fast_divisor
  simp only [e1, es, Nat.one_mul]
  have h32 : (2:Nat)^32 = 4294967296 := by decide
  rw [h32] at hd2 ⊢
  generalize 2^s = P at *
  -- the magic number: `P − d < d`, so the quotient is below `2^32`; nothing wraps
  have hP : P < 18446744073709551616 := by omega
  have hx : 4294967296 * (P - d) < d * 4294967296 := by
    rw [Nat.mul_comm d]; exact Nat.mul_lt_mul_of_pos_left (by omega) (by decide)
  have hm : 4294967296 * (P - d) / d < 4294967296 := Nat.div_lt_of_lt_mul hx
  rw [Nat.mod_eq_of_lt hP, Word.wrap_sub hs1 hP, Nat.mod_eq_of_lt (Nat.lt_trans hx (Nat.mul_lt_mul_of_pos_right hd2 (by decide))),
    Nat.mod_eq_of_lt (Nat.lt_trans (Nat.succ_lt_succ hm) (by decide))]
  exact ⟨hm, rfl⟩

theorem fast_divide_eq (n m s : Nat) (hm : m ≤ 2^32) (hn : n < 2^32) : mi_fast_divide n m s = (n * m / 2^32 + n) / 2^s := by
  have hnm : n * m < 4294967296 * 4294967296 :=
    Nat.lt_of_le_of_lt (Nat.mul_le_mul_left _ hm) (Nat.mul_lt_mul_of_pos_right hn (by decide))
  have hhi : n * m / 2^32 < 4294967296 := Nat.div_lt_of_lt_mul hnm
  unfold mi_fast_divide
  have h1 : n * m < 18446744073709551616 := hnm
  have h2 : n * m / 2^32 + n < 18446744073709551616 := by omega
  simp only [Nat.mod_eq_of_lt h1, Nat.mod_eq_of_lt h2]

end C16L
