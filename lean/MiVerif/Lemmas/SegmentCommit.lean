import MiVerif.Gen.Commit
import MiVerif.Lemmas.CommitMask
import MiVerif.Lemmas.Masks
/-! the commit-bookkeeping functions as *generated from src/segment.c* (Gen/Commit.lean, extract/masktr.py): the request in closed form
    (`commitMask_eq`) and one case description per function (`commit_spec`, `purge_spec`), off which Props/C07 and C13 read the invariant,
    refused-commit, accessibility and frame theorems -/
namespace C07G
open GenC MaskAlg C13L

/-- `CommitM.SInv` over the state record of the generated functions -/
def SInvG (σ : SegSt) : Prop := ∀ k, σ.commit k = true → σ.os k = true

/-- well-formed segment geometry and a block range that starts inside the segment -/
structure Geo (σ : SegSt) (D size : Nat) : Prop where
  hseg : σ.base + 33554432 < 2^64
  hs   : σ.slices ≤ 512
  hD   : D < σ.slices * 65536
  hsz  : 0 < size
  hsz2 : size ≤ 33554432

theorem commitMask_eq (σ : SegSt) (cons D size : Nat) (g : Geo σ D size) :
    commitMask σ cons ((σ.base + D : Nat) : Int) (size : Int) =
      (((σ.base + lo cons D * 65536 : Nat) : Int), (((hi cons D size σ.slices - lo cons D) * 65536 : Nat) : Int),
        mRange (lo cons D) (hi cons D size σ.slices - lo cons D)) := by
  unfold commitMask
  simp only [Int.toNat_natCast]
  rw [commit_mask_closed (0, 0) (fun i n => (i, n)) (0, 0) σ.info σ.slices σ.base D size cons 0 0 0 g.hseg g.hD g.hs g.hsz g.hsz2]
  generalize lo cons D = i
  generalize hi cons D size σ.slices = j
  by_cases h : i < j
  · rw [if_pos h]
  · rw [if_neg h, Nat.sub_eq_zero_of_le (Nat.le_of_not_lt h)]
    have : mRange 0 0 = mRange i 0 := funext fun k => by unfold mRange; simp
    simp only [this]

theorem unitsOf_units (σ : SegSt) (i n : Nat) : unitsOf σ ((σ.base + i * 65536 : Nat) : Int) ((n * 65536 : Nat) : Int) = mRange i n := by
  unfold unitsOf
  rw [Int.toNat_natCast, Int.toNat_natCast, Nat.add_sub_cancel_left, Nat.mul_div_cancel _ (by omega : 0 < 65536),
    Nat.mul_div_cancel _ (by omega : 0 < 65536)]

theorem commitMask_unitsOf (σ : SegSt) (cons D size : Nat) (g : Geo σ D size) :
    unitsOf σ (commitMask σ cons ((σ.base + D : Nat) : Int) (size : Int)).1 (commitMask σ cons ((σ.base + D : Nat) : Int) (size : Int)).2.1
      = (commitMask σ cons ((σ.base + D : Nat) : Int) (size : Int)).2.2 := by
  rw [commitMask_eq σ cons D size g]
  exact unitsOf_units σ _ _

theorem commitMask_units (σ : SegSt) (cons D size : Nat) (g : Geo σ D size) :
    (commitMask σ cons ((σ.base + D : Nat) : Int) (size : Int)).2.1 = 0 ∨
    unitsOf σ (commitMask σ cons ((σ.base + D : Nat) : Int) (size : Int)).1 (commitMask σ cons ((σ.base + D : Nat) : Int) (size : Int)).2.1
      = (commitMask σ cons ((σ.base + D : Nat) : Int) (size : Int)).2.2 :=
  Or.inr (commitMask_unitsOf σ cons D size g)

theorem commit_spec (σ : SegSt) (p size : Int) (ok : Bool) (now d : Int) :
    CommitCase SegSt.commit SegSt.os σ (commitMask σ 0 p size).2.2 (unitsOf σ (commitMask σ 0 p size).1 (commitMask σ 0 p size).2.1)
      (mAllSet σ.commit (commitMask σ 0 p size).2.2 = true ∨ mEmpty (commitMask σ 0 p size).2.2 = true ∨ (commitMask σ 0 p size).2.1 = 0)
      ok (mi_segment_commit σ p size ok now d) := by
  unfold mi_segment_commit
  generalize commitMask σ 0 p size = r
  let P := CommitCase SegSt.commit SegSt.os σ r.2.2 (unitsOf σ r.1 r.2.1) (mAllSet σ.commit r.2.2 = true ∨ mEmpty r.2.2 = true ∨ r.2.1 = 0) ok
  refine iteInduction (motive := P) (fun he => ?_) fun _ => ?_
  · exact .covered σ rfl rfl (Or.inr (by simpa using he))
  · refine iteInduction (motive := P) (fun ha => ?_) fun ha => ?_
    · cases ok
      · exact .refused rfl
      · refine iteInduction (motive := P) (fun hf => nomatch hf) fun _ => ?_
        exact iteInduction (motive := P) (fun _ => .granted _ rfl rfl rfl) (fun _ => .granted _ rfl rfl rfl)
    · have hall : mAllSet σ.commit r.2.2 = true := by simpa using ha
      exact iteInduction (motive := P) (fun _ => .covered _ rfl rfl (Or.inl hall)) (fun _ => .covered _ rfl rfl (Or.inl hall))

theorem gen_commit_inv {σ : SegSt} {D size : Nat} {ok : Bool} {now d : Int} (g : Geo σ D size) (h : SInvG σ) :
    SInvG (mi_segment_commit σ ((σ.base + D : Nat) : Int) (size : Int) ok now d).1 :=
  (commit_spec σ _ _ ok now d).inv (commitMask_unitsOf σ 0 D size g) h

/-- `mi_segment_purge` for the request `r = commitMask σ 1 p size`, with the answers `nr` (a re-commit is needed) and `og` (access
    really revoked) of the OS layer -/
def PurgeSpec (σ : SegSt) (r : Int × Int × Mask) (nr og : Bool) (τ : SegSt) : Prop :=
  (τ.commit = σ.commit ∧ τ.os = σ.os) ∨
  (τ.commit = (if nr then mDiff σ.commit r.2.2 else σ.commit) ∧ τ.os = (if og then mDiff σ.os (unitsOf σ r.1 r.2.1) else σ.os))

theorem purge_spec (σ : SegSt) (p size : Int) (nr og : Bool) :
    PurgeSpec σ (commitMask σ 1 p size) nr og (mi_segment_purge σ p size nr og).1 := by
  unfold mi_segment_purge
  generalize commitMask σ 1 p size = r
  refine iteInduction (motive := fun τ : SegSt × Bool => PurgeSpec σ r nr og τ.1) (fun _ => Or.inl ⟨rfl, rfl⟩) fun _ => ?_
  refine iteInduction (motive := fun τ : SegSt × Bool => PurgeSpec σ r nr og τ.1) (fun _ => Or.inl ⟨rfl, rfl⟩) fun _ => ?_
  refine iteInduction (motive := fun τ : SegSt × Bool => PurgeSpec σ r nr og τ.1) (fun _ => ?_) (fun _ => Or.inl ⟨rfl, rfl⟩)
  cases nr <;> exact Or.inr ⟨rfl, rfl⟩

section
variable {σ τ : SegSt} {r : Int × Int × Mask} {nr og : Bool} (h : PurgeSpec σ r nr og τ) (hu : unitsOf σ r.1 r.2.1 = r.2.2)
include h hu

theorem PurgeSpec.inv (hon : og = true → nr = true) (hσ : SInvG σ) : SInvG τ := by
  intro k
  rcases h with ⟨hc, ho⟩ | ⟨hc, ho⟩
  · rw [hc, ho]; exact hσ k
  · rw [hc, ho, hu]; exact clear_pt hon (hσ k)

theorem PurgeSpec.frame {k : Nat} (hk : r.2.2 k = false) : τ.os k = σ.os k ∧ τ.commit k = σ.commit k := by
  rcases h with ⟨hc, ho⟩ | ⟨hc, ho⟩
  · rw [hc, ho]; exact ⟨rfl, rfl⟩
  · rw [hc, ho, hu]; exact ⟨clear_out og hk, clear_out nr hk⟩

end

theorem gen_ensure_inv (σ : SegSt) (D size : Nat) (ok : Bool) (now d : Int) (g : Geo σ D size) (h : SInvG σ) :
    SInvG (mi_segment_ensure_committed σ ((σ.base + D : Nat) : Int) (size : Int) ok now d).1 := by
  unfold mi_segment_ensure_committed
  exact iteInduction (motive := fun τ : SegSt × Bool => SInvG τ.1) (fun _ => h) (fun _ => gen_commit_inv g h)

end C07G
