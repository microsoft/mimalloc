import MiVerif.Gen.Os
import MiVerif.Lemmas.Align
import MiVerif.Lemmas.Control
/-! the OS layer as regenerated from src/os.c (Gen/Os.lean), for Props/C03, C11 and C13.  For `mi_os_prim_alloc_aligned` and
    `_mi_os_alloc_aligned_at_offset`: the OS layer's copy of `_mi_align_up` is the one of `Gen`, and the sizes of an over-allocation
    trimmed to its aligned part do not wrap.  Then `_mi_os_good_alloc_size` and `mi_os_page_align_areax` in closed form. -/
namespace OsAlignL
open Gen

/-- src/os.c is translated with its own copy of `_mi_align_up`: the same definition, so the same equation -/
theorem up_eq (sz a : Nat) (ha : 0 < a) (h : sz + a < 2^64) : GenO._mi_align_up sz a = (sz + a - 1) / a * a :=
  Align.up_eq sz a ha h

/-- the sizes of the trimmed over-allocation `[q, q + size + a)` around the kept `[P, P + size)`: nothing wraps -/
theorem trim_sizes {q P size a M : Nat} (h2 : P < q + a) (hfit : q + (size + a) < M) :
    (size + a) % M = size + a ∧ (P + size) % M = P + size ∧
    ((size + a + M - (P - q)) % M + M - size) % M = size + a - (P - q) - size := by
  refine ⟨Nat.mod_eq_of_lt (by omega), Nat.mod_eq_of_lt (by omega), ?_⟩
  rw [Word.wrap_sub (x := size + a) (y := P - q) (by omega) (by omega), Word.wrap_sub (by omega) (by omega)]

/-! ### `_mi_os_good_alloc_size`: the size the OS layer rounds a request to, and the size `_mi_os_free_ex` falls back to when a memory id
    records none -/

theorem good_eq (ps size : Nat) (hps : 0 < ps) (hd : ps ∣ 65536) (hs : size < 2^63) :
    ∃ a, 0 < a ∧ a ≤ size / 8 + ps ∧ ps ∣ a ∧ GenO._mi_os_good_alloc_size ps size = (size + a - 1) / a * a := by
  have hps2 : ps ≤ 65536 := Nat.le_of_dvd (by decide) hd
  -- whatever alignment the chain of `if`s picks, the rest of the function rounds up to it
  have rounds : ∀ a, 0 < a → a ≤ 4194304 → (if size ≥ (18446744073709551615 + 18446744073709551616 - a) % 18446744073709551616 then size
      else GenO._mi_align_up size a) = (size + a - 1) / a * a := by
    intro a hpos hal
    rw [Word.wrap_sub (by omega) (by decide), if_neg (by omega)]
    exact up_eq size a hpos (by omega)
  unfold GenO._mi_os_good_alloc_size
  dsimp only
  by_cases h1 : size < 524288
  · exact ⟨ps, hps, by omega, Nat.dvd_refl _, by rw [if_pos h1]; exact rounds ps hps (by omega)⟩
  by_cases h2 : size < 2097152
  · exact ⟨65536, by decide, by omega, hd, by rw [if_neg h1, if_pos h2]; exact rounds _ (by decide) (by decide)⟩
  by_cases h3 : size < 8388608
  · exact ⟨262144, by decide, by omega, Nat.dvd_trans hd ⟨4, by decide⟩, by rw [if_neg h1, if_neg h2, if_pos h3]; exact rounds _ (by decide) (by decide)⟩
  by_cases h4 : size < 33554432
  · exact ⟨1048576, by decide, by omega, Nat.dvd_trans hd ⟨16, by decide⟩,
      by rw [if_neg h1, if_neg h2, if_neg h3, if_pos h4]; exact rounds _ (by decide) (by decide)⟩
  · exact ⟨4194304, by decide, by omega, Nat.dvd_trans hd ⟨64, by decide⟩,
      by rw [if_neg h1, if_neg h2, if_neg h3, if_neg h4]; exact rounds _ (by decide) (by decide)⟩

/-! ### `mi_os_page_align_areax`: the page-aligned area the OS is asked to decommit / reset (conservative) or to commit (liberal) -/

theorem area_eq (ps cons addr size : Nat) (hps : 0 < ps) (ha : addr ≠ 0) (hs : size ≠ 0)
    (hfit : addr + size + ps < 9223372036854775808) :
    mi_os_page_align_areax ps cons addr size 1 =
      let S := if cons ≠ 0 then (addr + ps - 1) / ps * ps else addr / ps * ps
      let E := if cons ≠ 0 then (addr + size) / ps * ps else (addr + size + ps - 1) / ps * ps
      if E ≤ S then (0, 0) else (S, E - S) := by
  -- both ends stay below 2^63 whichever way they are rounded, so the signed difference the code takes is their difference
  have hup : ∀ x, x + ps < 9223372036854775808 → (x + ps - 1) / ps * ps < 9223372036854775808 :=
    fun x hx => Nat.lt_trans (Word.roundUp_bounds x hps).2 hx
  have hdn : ∀ x, x + ps < 9223372036854775808 → x / ps * ps < 9223372036854775808 :=
    fun x hx => Nat.lt_of_le_of_lt (Nat.div_mul_le_self x ps) (Nat.lt_of_le_of_lt (Nat.le_add_right x ps) hx)
  obtain ⟨S, hS, bS⟩ : ∃ v, (if cons ≠ 0 then (addr + ps - 1) / ps * ps else addr / ps * ps) = v ∧ v < 9223372036854775808 :=
    ⟨_, rfl, iteInduction (motive := (· < 9223372036854775808)) (fun _ => hup addr (by omega)) (fun _ => hdn addr (by omega))⟩
  obtain ⟨E, hE, bE⟩ : ∃ v, (if cons ≠ 0 then (addr + size) / ps * ps else (addr + size + ps - 1) / ps * ps) = v
      ∧ v < 9223372036854775808 :=
    ⟨_, rfl, iteInduction (motive := (· < 9223372036854775808)) (fun _ => hdn _ hfit) (fun _ => hup _ hfit)⟩
  have eas : (addr + size) % 18446744073709551616 = addr + size := Nat.mod_eq_of_lt (by omega)
  have u1 := Align.up_eq addr ps hps (by omega)
  have u2 := Align.up_eq (addr + size) ps hps (by omega)
  have d1 := Align.down_eq addr ps hps (by omega) (by omega)
  have d2 := Align.down_eq (addr + size) ps hps (by omega) (by omega)
  have c0 : ¬ ((size = 0) ∨ (addr = 0)) := fun h => h.elim hs ha
  unfold mi_os_page_align_areax mi_align_up_ptr mi_align_down_ptr
  simp only [if_neg c0, eas, u1, u2, d1, d2, hS, hE, Word.sdiff_nonpos_iff bE bS, if_pos (show (1:Nat) ≠ 0 by decide)]
  by_cases h : E ≤ S
  · rw [if_pos h, if_pos h]
  · rw [if_neg h, if_neg h, Word.sdiff_toNat (Nat.le_of_lt (Nat.lt_of_not_le h)) (Nat.lt_of_le_of_lt (Nat.sub_le E S) bE)]

end OsAlignL
