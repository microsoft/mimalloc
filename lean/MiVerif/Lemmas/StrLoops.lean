import MiVerif.Lemmas.Word
import MiVerif.Gen.Loops
import MiVerif.Lemmas.Control
/-! the bounded string functions of src/libc.c as regenerated (loops → `whileN`): both loops of `_mi_strlcpy` / `_mi_strlcat` move a cursor
   through the destination buffer, and the copy stores in bounds from whichever cursor it is started at.  The theorems are in Props/C20. -/
namespace StrL

def InBuf (dest size : Nat) (c : String × List Nat) : Prop :=
  ∃ a v, c = ("store8", [a, v]) ∧ dest ≤ a ∧ a < dest + size

/-- a cursor `d` into the buffer `[dest, dest + size)` with `n ≥ 1` bytes of it left -/
def Cursor (dest size d n : Nat) : Prop := dest ≤ d ∧ d + n = dest + size ∧ 1 ≤ n

theorem Cursor.start {dest size : Nat} (hn : 0 < size) : Cursor dest size dest size := ⟨Nat.le_refl _, rfl, hn⟩

theorem Cursor.step {dest size d n : Nat} (hfit : dest + size < 2^64) (h : Cursor dest size d n) (hn : n > 1) :
    Cursor dest size ((d + 1) % 18446744073709551616) ((n + 18446744073709551616 - 1) % 18446744073709551616) := by
  obtain ⟨h1, h2, h3⟩ := h
  rw [Nat.mod_eq_of_lt (by omega), Word.wrap_sub h3 (by omega)]
  unfold Cursor; omega

theorem Cursor.inBuf {dest size d n : Nat} (h : Cursor dest size d n) (v : Nat) : InBuf dest size ("store8", [d, v]) := by
  obtain ⟨h1, h2, h3⟩ := h
  exact ⟨d, v, rfl, h1, by omega⟩

theorem strlcpy_from_cursor (ld8 : Nat → Nat) {dest size d n : Nat} (src : Nat) (hd : dest ≠ 0) (hs : src ≠ 0) (hfit : dest + size < 2^64)
    (h : Cursor dest size d n) :
    (∀ c ∈ GenL._mi_strlcpy ld8 d src n, InBuf dest size c) ∧ ∃ pre a, GenL._mi_strlcpy ld8 d src n = pre ++ [("store8", [a, 0])] := by
  unfold GenL._mi_strlcpy
  rw [if_neg (by have := h.1; have := h.2.2; omega)]
  refine ⟨?_, _, _, rfl⟩
  generalize hr : whileN _ _ _ _ = r
  have hinv : Cursor dest size r.2.1 r.2.2.2 ∧ ∀ c ∈ r.1, InBuf dest size c := by
    rw [← hr]
    refine whileN_inv (σ := List (String × List Nat) × Nat × Nat × Nat)
      (fun st => Cursor dest size st.2.1 st.2.2.2 ∧ ∀ c ∈ st.1, InBuf dest size c) _ _ ?_ _ _ ⟨h, fun c hc => by cases hc⟩
    intro st ⟨hcur, hst⟩ hc
    simp only [decide_eq_true_eq] at hc
    exact ⟨hcur.step hfit hc.2, forall_mem_snoc hst (hcur.inBuf _)⟩
  exact forall_mem_snoc hinv.2 (hinv.1.inBuf 0)

end StrL
