import MiVerif.Gen.Entry
import MiVerif.Lemmas.AddressArith
/-! the regenerated API layer (Gen/Entry.lean): the overflow-checked product in one equation, the argument check of the aligned entry
   points, and the two re-allocation functions in one equation each (`realloc_zero_eq`, `realloc_aligned_eq`).
   The allocator core behind the entry points is a tuple of oracle parameters; here and in Props/C03 – C06 they are abbreviated
   `gsp` (`fsp`) = `_mi_heap_get_free_small_page`, `pmz` = `_mi_page_malloc_zero`, `gen` = `_mi_malloc_generic`, `us` (`usable`) = `_mi_usable_size`,
   `rdf` (`rd_free`) = the load of `page->free`, `pmzd` = `_mi_page_malloc_zeroed`, `pm` = `_mi_page_malloc`, `bs` = `_mi_bin_size`, `ps` = `_mi_os_page_size`,
   `ng` (`nog`) = `mi_heap_malloc_zero_no_guarded`, `pp` (`ptr_page`) = `_mi_ptr_page`, `dh` = `mi_prim_get_default_heap`
   (Props/C19 calls the first three `a b c` and the default heap `hp`). -/

namespace C06L
open GenE

/-- `mi_count_size_overflow` of the API layer is the same C function as the one in `Gen` (regenerated into both files), so it has the
    same equation -/
theorem count_size_overflow_eq (count size t : Nat) :
    mi_count_size_overflow count size t =
      if count = 1 then (0, size) else if 2^64 ≤ count * size then (1, 18446744073709551615) else (0, count * size) :=
  C16L.count_size_eq count size t

theorem count_size_overflow_of_ge {count size t : Nat} (hs : size < 2^64) (h : 2^64 ≤ count * size) :
    mi_count_size_overflow count size t = (1, 18446744073709551615) := C16L.count_size_of_ge (t := t) hs h

theorem count_size_overflow_of_lt {count size t : Nat} (h : count * size < 2^64) :
    mi_count_size_overflow count size t = (0, count * size) := C16L.count_size_of_lt (t := t) h

/-- also for `x = 0`, which the C function takes for a power of two -/
theorem is_pow2_eq {x : Nat} (hx : x < 2^64) : _mi_is_power_of_two x = 0 ↔ x &&& (x - 1) ≠ 0 := by
  unfold _mi_is_power_of_two
  by_cases h0 : x = 0
  · simp [h0]
  · rw [Word.wrap_sub (Nat.pos_of_ne_zero h0) hx]
    by_cases h : x &&& (x - 1) = 0 <;> simp [h]

/-- the argument check shared by the aligned entry points -/
theorem bad_alignment {alignment : Nat} (ha : alignment < 2^64)
    (h : alignment = 0 ∨ alignment &&& (alignment - 1) ≠ 0) :
    (alignment = 0) ∨ (¬ ((_mi_is_power_of_two alignment) ≠ 0)) :=
  h.imp_right fun h hne => hne ((is_pow2_eq ha).2 h)

/-- the zeroing of a block grown by moving, as the re-allocation functions log it: from 8 bytes before the end of the copy of `cs`
    bytes (the copy writes those again) up to the usable size of the new block `np` -/
def zeroTail (us : Nat → Nat → Nat) (cs np : Nat) : String × List Nat :=
  ("_mi_memzero", [(np + (if cs ≥ 8 then (cs + 18446744073709551616 - 8) % 18446744073709551616 else 0)) % 18446744073709551616,
    (us np 0 + 18446744073709551616 - (if cs ≥ 8 then (cs + 18446744073709551616 - 8) % 18446744073709551616 else 0)) % 18446744073709551616])

theorem zeroTail_eq {us : Nat → Nat → Nat} {cs np : Nat} (hfit : cs ≤ us np 0) (hb : np + us np 0 < 2^64) :
    zeroTail us cs np = ("_mi_memzero", [np + (cs - 8), us np 0 - (cs - 8)]) := by
  have hU : us np 0 < 2^64 := Nat.lt_of_le_of_lt (Nat.le_add_left _ _) hb
  have hle : cs - 8 ≤ us np 0 := Nat.le_trans (Nat.sub_le cs 8) hfit
  have hst : (if cs ≥ 8 then (cs + 18446744073709551616 - 8) % 18446744073709551616 else 0) = cs - 8 :=
    Word.guarded_sub (Nat.lt_of_le_of_lt hfit hU) id Nat.le_of_not_ge
  rw [zeroTail, hst, Nat.mod_eq_of_lt (Nat.lt_of_le_of_lt (Nat.add_le_add_left hle np) hb), Word.wrap_sub hle hU]

/-- what is written into the new block before the copy (the zeroed tail / the terminator of a 0-sized block) -/
def reallocInit (us : Nat → Nat → Nat) (p newsize zero_ newp : Nat) : List (String × List Nat) :=
  if zero_ ≠ 0 then [zeroTail us (min (us p 0) newsize) newp]
  else if newsize = 0 then [("store8", [(newp + 0 * 1) % 18446744073709551616, 0])] else []

theorem reallocInit_no_free (us : Nat → Nat → Nat) (p newsize zero_ newp : Nat) :
    (reallocInit us p newsize zero_ newp).filter (fun e => e.1 == "mi_free") = [] := by
  unfold reallocInit zeroTail
  split
  · simp
  · split <;> simp

theorem realloc_zero_eq {us gsp : Nat → Nat → Nat} {pmz gen : Nat → Nat → Nat → Nat → Nat} {heap p newsize zero_ np : Nat}
    (hnp : mi_heap_malloc gsp pmz gen heap newsize = np) :
    _mi_heap_realloc_zero us gsp pmz gen heap p newsize zero_ =
      if newsize ≤ us p 0 ∧ us p 0 / 2 ≤ newsize ∧ 0 < newsize then (p, [])
      else (np, if np ≠ 0 then reallocInit us p newsize zero_ np ++
          (if p ≠ 0 then [("_mi_memcpy", [np, p, min (us p 0) newsize]), ("mi_free", [p])] else [])
        else []) := by
  subst hnp
  unfold _mi_heap_realloc_zero reallocInit zeroTail mi_usable_size
  -- (`split` instead of `by_cases` + `if_pos` costs several times as much on the generated terms)
  by_cases hc : newsize ≤ us p 0 ∧ us p 0 / 2 ≤ newsize ∧ 0 < newsize
  · rw [if_pos hc, if_pos ⟨⟨hc.1, hc.2.1⟩, hc.2.2⟩]
  · rw [if_neg hc, if_neg (fun h => hc ⟨h.1.1, h.1.2, h.2⟩)]
    -- both sides are the initialisation followed, for `p ≠ 0`, by copy and free: only the bracketing differs
    by_cases hp : p ≠ 0
    · simp only [Word.ite_gt_min, List.nil_append, if_pos hp, List.append_assoc]; rfl
    · simp only [Word.ite_gt_min, List.nil_append, if_neg hp, List.append_nil]

/-- the one case of `mi_heap_realloc_zero_aligned_at` that is not a plain call: for `alignment ≤ 8` it is `_mi_heap_realloc_zero`, for
    `p = 0` the aligned allocation -/
theorem realloc_aligned_eq {us gsp : Nat → Nat → Nat} {pmz gen : Nat → Nat → Nat → Nat → Nat} {rdf : Nat → Nat}
    {pmzd pm : Nat → Nat → Nat → Nat} {bs : Nat → Nat} {ps : Nat} {ng : Nat → Nat → Nat → Nat} {pp : Nat → Nat}
    {heap p newsize alignment offset zero_ : Nat} {a : Nat × List (String × List Nat)} (ha : 8 < alignment) (hp : p ≠ 0)
    (hcall : mi_heap_malloc_aligned_at gsp rdf pmzd pm bs ps ng pmz gen pp us heap newsize alignment offset = a) :
    mi_heap_realloc_zero_aligned_at us gsp pmz gen rdf pmzd pm bs ps ng pp heap p newsize alignment offset zero_ =
      if newsize ≤ us p 0 ∧ (us p 0 + 2^64 - us p 0 / 2) % 2^64 ≤ newsize ∧ (p + offset) % 2^64 % alignment = 0 then (p, [])
      else (a.1, a.2 ++ if a.1 ≠ 0 then
          (if zero_ ≠ 0 then [zeroTail us (min (us p 0) newsize) a.1] else []) ++
            [("_mi_memcpy_aligned", [a.1, p, min (us p 0) newsize]), ("mi_free", [p])]
        else []) := by
  unfold mi_heap_realloc_zero_aligned_at mi_usable_size zeroTail
  rw [if_neg (Nat.not_le.2 ha), if_neg hp, hcall]
  obtain ⟨a1, a2⟩ := a
  by_cases hc : newsize ≤ us p 0 ∧ (us p 0 + 2^64 - us p 0 / 2) % 2^64 ≤ newsize ∧ (p + offset) % 2^64 % alignment = 0
  · rw [if_pos hc, if_pos ⟨⟨hc.1, hc.2.1⟩, hc.2.2⟩]
  · rw [if_neg hc, if_neg (fun h => hc ⟨h.1.1, h.1.2, h.2⟩)]
    by_cases h1 : a1 ≠ 0
    · by_cases hz : zero_ ≠ 0
      · simp only [if_pos h1, if_pos hz, Word.ite_gt_min, List.nil_append, List.append_assoc, List.cons_append]
      · simp only [if_pos h1, if_neg hz, Word.ite_gt_min, List.nil_append, List.append_assoc, List.cons_append]
    · simp only [if_neg h1, List.nil_append, List.append_nil]

end C06L
