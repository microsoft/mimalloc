import MiVerif.Gen.Loops
import MiVerif.Lemmas.Control
import MiVerif.Lemmas.Word
/-! `mi_page_free_list_extend` as regenerated from src/page.c (one `while` loop, `whileN`): the exact list of stores it makes. -/
namespace ExtendL
open GenL

abbrev Eff := List (String × List Nat)

/-- the stores that link blocks `j, j+1, …, j+m-1` of the area (block `i` at `a + i * bs`) each to its successor -/
def links (page a bs : Nat) : Nat → Nat → Eff
  | _, 0 => []
  | j, m + 1 => ("mi_block_set_next", [page, a + j * bs, a + (j + 1) * bs]) :: links page a bs (j + 1) m

theorem links_length (page a bs j m : Nat) : (links page a bs j m).length = m := by
  induction m generalizing j with
  | zero => rfl
  | succ m ih => simp [links, ih]

theorem mem_links (page a bs j m : Nat) (c : String × List Nat) (h : c ∈ links page a bs j m) :
    ∃ i, j ≤ i ∧ i < j + m ∧ c = ("mi_block_set_next", [page, a + i * bs, a + (i + 1) * bs]) := by
  induction m generalizing j with
  | zero => cases h
  | succ m ih =>
    simp only [links, List.mem_cons] at h
    rcases h with h | h
    · exact ⟨j, Nat.le_refl _, by omega, h⟩
    · obtain ⟨i, h1, h2, h3⟩ := ih (j + 1) h
      exact ⟨i, by omega, by omega, h3⟩

/-- the loop, abstractly: from block `j` it runs exactly `m` more times when `j + m` is one past the last block -/
theorem loop_exact (page a bs last : Nat) (c : Eff × Nat → Bool) (body : Eff × Nat → Eff × Nat)
    (hc : ∀ s, c s = decide (s.2 ≤ last))
    (hbody : ∀ s, body s = (s.1 ++ [("mi_block_set_next", [page, s.2, (s.2 + bs) % 18446744073709551616])], (s.2 + bs) % 18446744073709551616))
    (hbs : 0 < bs) (n : Nat) (hlast : last = a + (n - 1) * bs) (hn : 0 < n) (hfit : a + (n + 1) * bs < 18446744073709551616) :
    ∀ (m j fuel : Nat) (eff : Eff), j + m = n → m ≤ fuel →
      whileN fuel c body (eff, a + j * bs) = (eff ++ links page a bs j m, a + n * bs) := by
  -- the loop condition on block `j` says that `j` is not the last block
  have hcond : ∀ j eff, c (eff, a + j * bs) = decide (j < n) := by
    intro j eff
    obtain ⟨k, rfl⟩ : ∃ k, n = k + 1 := ⟨n - 1, (Nat.succ_pred_eq_of_pos hn).symm⟩
    rw [hc, hlast, Nat.add_sub_cancel, decide_eq_decide, Nat.add_le_add_iff_left, Nat.lt_succ_iff]
    exact Nat.mul_le_mul_right_iff hbs
  have key := whileN_rec (c := c) (body := body)
    (fun m s t => ∀ j eff, j + m = n → s = (eff, a + j * bs) → t = (eff ++ links page a bs j m, a + n * bs)) ?_ ?_ ?_
  · exact fun m j fuel eff hj hf => key m fuel _ hf j eff hj rfl
  · rintro m _ hs j eff hj rfl
    rw [hcond, decide_eq_false_iff_not] at hs
    obtain ⟨rfl, rfl⟩ : m = 0 ∧ j = n := by omega
    rw [links, List.append_nil]
  · rintro _ t hs j eff hj rfl
    rw [hcond, decide_eq_true_iff] at hs
    omega
  · rintro m _ t hs ih j eff hj rfl
    have hnext : (a + j * bs + bs) % 18446744073709551616 = a + (j + 1) * bs := by
      rw [Nat.succ_mul, ← Nat.add_assoc]
      have : (j + 1) * bs ≤ (n + 1) * bs := Nat.mul_le_mul_right _ (by omega)
      rw [Nat.succ_mul] at this
      exact Nat.mod_eq_of_lt (by omega)
    rw [ih (j + 1) _ (by omega) (by rw [hbody, hnext]), links, List.append_assoc, List.singleton_append]

theorem addr_split (p cap k bs : Nat) : p + (cap + k) * bs = (p + cap * bs) + k * bs := by
  rw [Nat.add_mul]; omega

theorem block_at_eq {page ps bs i : Nat} (h : ps + i * bs < 18446744073709551616) : mi_page_block_at page ps bs i = ps + i * bs := by
  unfold mi_page_block_at
  rw [Nat.mod_eq_of_lt (a := i * bs) (Nat.lt_of_le_of_lt (Nat.le_add_left _ _) h), Nat.mod_eq_of_lt h]

theorem extend_exact (ps : Nat → Nat) (cap free page bs ext stats : Nat) (hbs : 0 < bs) (hext : 0 < ext)
    (hfit : ps page + (cap + ext + 1) * bs < 18446744073709551616) :
    mi_page_free_list_extend ps cap free page bs ext stats =
      links page (ps page + cap * bs) bs 0 ext ++
        [("mi_block_set_next", [page, ps page + (cap + ext - 1) * bs, free]), ("set:free", [page, ps page + cap * bs])] := by
  have hM : ∀ k, k ≤ cap + ext + 1 → ps page + k * bs < 18446744073709551616 :=
    fun k hk => Nat.lt_of_le_of_lt (Nat.add_le_add_left (Nat.mul_le_mul_right _ hk) _) hfit
  have hce : cap + ext < 18446744073709551616 :=
    Nat.lt_of_le_of_lt (Nat.le_trans (Nat.le_mul_of_pos_right _ hbs) (Nat.le_add_left _ _)) (hM (cap + ext) (Nat.le_succ _))
  have h1 : cap + ext - 1 = cap + (ext - 1) := by omega
  unfold mi_page_free_list_extend
  simp only [Nat.mod_eq_of_lt hce, Word.wrap_sub (Nat.le_trans hext (Nat.le_add_left _ _)) hce, block_at_eq (hM cap (by omega)),
    block_at_eq (hM (cap + ext - 1) (by omega))]
  rw [h1, addr_split]
  have hloop := loop_exact page (ps page + cap * bs) bs _ _ _ (fun _ => rfl) (fun _ => rfl) hbs ext rfl hext
    (by rw [← addr_split]; exact hM _ (Nat.le_refl _)) (m := ext) (j := 0) (fuel := 18446744073709551616) (eff := []) (Nat.zero_add _)
    (Nat.le_of_lt (by omega))
  rw [Nat.zero_mul, Nat.add_zero] at hloop
  rw [hloop]
  simp only [List.nil_append, List.append_assoc, List.cons_append]

/-- the `next` field of the block at `addr` after the stores of an effect log (a later store wins) -/
def nextAfter (eff : Eff) (page addr : Nat) : Option Nat :=
  eff.foldl (fun acc c => match c with
    | ("mi_block_set_next", [pg, a, nx]) => if pg = page ∧ a = addr then some nx else acc
    | _ => acc) none

/-- `page->free` after the stores of an effect log -/
def freeAfter (eff : Eff) (page : Nat) : Option Nat :=
  eff.foldl (fun acc c => match c with
    | ("set:free", [pg, v]) => if pg = page then some v else acc
    | _ => acc) none

theorem addr_inj {a bs i j : Nat} (hbs : 0 < bs) : a + j * bs = a + i * bs ↔ j = i := by
  rw [Nat.add_left_cancel_iff]
  exact Nat.mul_right_cancel_iff hbs

theorem foldl_links (page a bs : Nat) (hbs : 0 < bs) (i : Nat) : ∀ (m j : Nat) (acc : Option Nat),
    (links page a bs j m).foldl (fun acc c => match c with
        | ("mi_block_set_next", [pg, x, nx]) => if pg = page ∧ x = a + i * bs then some nx else acc
        | _ => acc) acc
      = if j ≤ i ∧ i < j + m then some (a + (i + 1) * bs) else acc := by
  intro m
  induction m with
  | zero => intro j acc; exact (if_neg (by omega)).symm
  | succ m ih =>
    intro j acc
    simp only [links, List.foldl_cons, true_and, addr_inj hbs]
    rw [ih]
    by_cases hji : j = i
    · subst hji
      rw [if_neg (by omega), if_pos rfl, if_pos (by omega)]
    · rw [if_neg hji]
      exact ite_congr (propext (by omega)) (fun _ => rfl) (fun _ => rfl)

theorem foldl_links_free (page a bs : Nat) : ∀ (m j : Nat) (acc : Option Nat),
    (links page a bs j m).foldl (fun acc c => match c with
        | ("set:free", [pg, v]) => if pg = page then some v else acc
        | _ => acc) acc = acc := by
  intro m
  induction m with
  | zero => intro j acc; rfl
  | succ m ih =>
    intro j acc
    simp only [links, List.foldl_cons]
    rw [ih]
    rfl

theorem chain (page a bs n free : Nat) (hbs : 0 < bs) :
    freeAfter (links page a bs 0 n ++ [("mi_block_set_next", [page, a + (n - 1) * bs, free]), ("set:free", [page, a])]) page = some a ∧
    ∀ i, i < n → nextAfter (links page a bs 0 n ++ [("mi_block_set_next", [page, a + (n - 1) * bs, free]), ("set:free", [page, a])])
      page (a + i * bs) = some (if i + 1 < n then a + (i + 1) * bs else free) := by
  constructor
  · unfold freeAfter
    rw [List.foldl_append, foldl_links_free]
    simp
  · intro i hi
    unfold nextAfter
    rw [List.foldl_append, foldl_links page a bs hbs i n 0 none, if_pos (by omega)]
    simp only [List.foldl_cons, List.foldl_nil, true_and, addr_inj hbs]
    by_cases hl : i + 1 < n
    · rw [if_neg (by omega), if_pos hl]; rfl
    · rw [if_pos (by omega), if_neg hl]; rfl

end ExtendL
