import MiVerif.Model.BitmapC
/-! executable validator for the concurrent bitmap-claim model, proved sound w.r.t. `BitmapC.Step`:
    a log of atomic operations accepted by `run` is an execution of the model, so the invariant (no bit owned twice, every set bit
    owned) holds in every state along it -/
namespace BitmapC

def freeIn (bits : Nat → Bool) (lo hi : Nat) : Bool := (List.range (hi - lo)).all (fun k => bits (lo + k) == false)

theorem freeIn_iff {bits : Nat → Bool} {lo hi : Nat} : freeIn bits lo hi = true ↔ ∀ i, lo ≤ i → i < hi → bits i = false := by
  simp only [freeIn, List.all_eq_true, List.mem_range, beq_iff_eq]
  constructor
  · intro h i h1 h2
    have := h (i - lo) (by omega)
    rwa [Nat.add_sub_cancel' h1] at this
  · intro h k hk
    exact h (lo + k) (Nat.le_add_right lo k) (by omega)

def splitAt : List Own → Own → Option (List Own × List Own)
  | [], _ => none
  | x :: xs, o => if x = o then some ([], xs) else (splitAt xs o).map (fun p => (x :: p.1, p.2))

theorem splitAt_spec {l : List Own} {o : Own} {pre post : List Own} (h : splitAt l o = some (pre, post)) : l = pre ++ o :: post := by
  induction l generalizing pre post with
  | nil => cases h
  | cons x xs ih =>
    unfold splitAt at h
    split at h
    · rename_i hx; cases h; rw [hx]; rfl
    · obtain ⟨⟨pre', post'⟩, hs, hp⟩ := Option.map_eq_some_iff.1 h
      cases hp
      rw [ih hs]; rfl

inductive Lbl where
  | start (a : Nat) | claimTop (o : Own) (b' : Nat) | fail (o : Own) | storeZero (o : Own) (k : Nat) | casClear (o : Own)
  | finish (o : Own) | freeStart (o : Own) | freeChunk (o : Own) (a' : Nat)

def exec (s : St) : Lbl → Option St
  | .start a => some { s with owns := ⟨a, a, 1⟩ :: s.owns }
  | .claimTop o b' =>
    match splitAt s.owns o with
    | some (pre, post) => if o.kind = 1 ∧ o.b < b' ∧ freeIn s.bits o.b b' = true then some { bits := setRange s.bits o.b b' true, owns := pre ++ ⟨o.a, b', 1⟩ :: post } else none
    | none => none
  | .fail o =>
    match splitAt s.owns o with
    | some (pre, post) => if o.kind = 1 then some { s with owns := pre ++ ⟨o.a, o.b, 2⟩ :: post } else none
    | none => none
  | .storeZero o k =>
    match splitAt s.owns o with
    | some (pre, post) => if o.kind = 2 ∧ o.b = 64 * k + 64 ∧ o.a ≤ 64 * k then some { bits := setRange s.bits (64 * k) (64 * k + 64) false, owns := pre ++ ⟨o.a, 64 * k, 2⟩ :: post } else none
    | none => none
  | .casClear o =>
    match splitAt s.owns o with
    | some (pre, post) => if o.kind = 2 then some { bits := setRange s.bits o.a o.b false, owns := pre ++ post } else none
    | none => none
  | .finish o =>
    match splitAt s.owns o with
    | some (pre, post) => if o.kind = 1 then some { s with owns := pre ++ ⟨o.a, o.b, 0⟩ :: post } else none
    | none => none
  | .freeStart o =>
    match splitAt s.owns o with
    | some (pre, post) => if o.kind = 0 then some { s with owns := pre ++ ⟨o.a, o.b, 3⟩ :: post } else none
    | none => none
  | .freeChunk o a' =>
    match splitAt s.owns o with
    | some (pre, post) => if o.kind = 3 ∧ o.a < a' ∧ a' ≤ o.b then some { bits := setRange s.bits o.a a' false, owns := pre ++ (if a' = o.b then [] else [⟨a', o.b, 3⟩]) ++ post } else none
    | none => none

/-- every case of `exec` but `start`: find the run `o`, test the guard `c`, answer `f pre post` -/
theorem exec_at {s s' : St} {o : Own} {c : Prop} [Decidable c] {f : List Own → List Own → St}
    (h : (match splitAt s.owns o with | some (pre, post) => if c then some (f pre post) else none | none => none) = some s') :
    ∃ pre post, s.owns = pre ++ o :: post ∧ c ∧ s' = f pre post := by
  split at h
  · rename_i pre post hs
    obtain ⟨hc, rfl⟩ := Option.ite_some_none_eq_some.1 h
    exact ⟨pre, post, splitAt_spec hs, hc, rfl⟩
  · cases h

theorem exec_sound {s s' : St} {l : Lbl} (h : exec s l = some s') : Step s s' := by
  cases l with
  | start a => cases h; exact .start s a
  | claimTop o b' =>
    obtain ⟨pre, post, hs, hc, rfl⟩ := exec_at h
    exact .claimTop s pre post o b' hs hc.1 hc.2.1 (freeIn_iff.1 hc.2.2)
  | fail o => obtain ⟨pre, post, hs, hc, rfl⟩ := exec_at h; exact .fail s pre post o hs hc
  | storeZero o k => obtain ⟨pre, post, hs, hc, rfl⟩ := exec_at h; exact .storeZero s pre post o k hs hc.1 hc.2.1 hc.2.2
  | casClear o => obtain ⟨pre, post, hs, hc, rfl⟩ := exec_at h; exact .casClear s pre post o hs hc
  | finish o => obtain ⟨pre, post, hs, hc, rfl⟩ := exec_at h; exact .finish s pre post o hs hc
  | freeStart o => obtain ⟨pre, post, hs, hc, rfl⟩ := exec_at h; exact .freeStart s pre post o hs hc
  | freeChunk o a' => obtain ⟨pre, post, hs, hc, rfl⟩ := exec_at h; exact .freeChunk s pre post o a' hs hc.1 hc.2.1 hc.2.2

def run (s : St) : List Lbl → Option St
  | [] => some s
  | l :: ls => match exec s l with
    | some s' => run s' ls
    | none => none

/-- every state reached by an accepted log satisfies the ownership invariant -/
theorem run_inv {s s' : St} {ls : List Lbl} (hi : Inv s) (h : run s ls = some s') : Inv s' := by
  induction ls generalizing s with
  | nil => cases h; exact hi
  | cons l ls ih =>
    simp only [run] at h
    split at h
    · rename_i s1 he; exact ih (inv_step hi (exec_sound he)) h
    · cases h

end BitmapC
#print axioms BitmapC.run_inv
