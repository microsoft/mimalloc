import MiVerif.Model.Delayed
namespace Delayed

inductive Lbl where
  | start (b : Blk) | load (b : Blk) | cas2fail (b : Blk) | cas2push (b : Blk) | cas2delay (b : Blk)
  | load4 (b : Blk) | cas4fail (b : Blk) | cas4ok (b : Blk) | load5 (b : Blk) | cas5fail (b : Blk) | cas5ok (b : Blk)
  | tfCollect | lfCollect | malloc | freeLocal (b : Blk) | takeDl | procStart | procSetUse | procNever | procGiveUp | procFree
deriving Repr

/-- first flight working on block `b` -/
def findB : List Flight → Blk → Option (List Flight × Flight × List Flight)
  | [], _ => none
  | x :: xs, b => if x.b = b then some ([], x, xs) else
      match findB xs b with
      | some (pre, y, post) => some (x :: pre, y, post)
      | none => none

theorem findB_spec {l : List Flight} {b : Blk} {pre post : List Flight} {x : Flight}
    (h : findB l b = some (pre, x, post)) : l = pre ++ x :: post ∧ x.b = b := by
  induction l generalizing pre with
  | nil => cases h
  | cons y ys ih =>
    dsimp only [findB] at h
    split at h
    · rename_i hy; cases h; exact ⟨rfl, hy⟩
    · split at h
      · rename_i p z q hf; cases h; exact ⟨congrArg (y :: ·) (ih hf).1, (ih hf).2⟩
      · cases h

def exec (s : St) : Lbl → Option St
  | .start b => if b ∈ s.live then some { s with live := s.live.erase b, fl := ⟨b, .r1⟩ :: s.fl } else none
  | .load b => match findB s.fl b with
      | some (pre, ⟨_, .r1⟩, post) => some { s with fl := pre ++ ⟨b, .r2 s.tf s.flag⟩ :: post }
      | _ => none
  | .cas2fail b => match findB s.fl b with
      | some (pre, ⟨_, .r2 _ _⟩, post) => some { s with fl := pre ++ ⟨b, .r2 s.tf s.flag⟩ :: post }
      | _ => none
  | .cas2push b => match findB s.fl b with
      | some (pre, ⟨_, .r2 hh ff⟩, post) =>
          if s.tf = hh ∧ s.flag = ff ∧ ff ≠ .use then some { s with tf := b :: s.tf, fl := pre ++ post } else none
      | _ => none
  | .cas2delay b => match findB s.fl b with
      | some (pre, ⟨_, .r2 hh ff⟩, post) =>
          if s.tf = hh ∧ s.flag = ff ∧ ff = .use then some { s with flag := .freeing, fl := pre ++ ⟨b, .r4load⟩ :: post } else none
      | _ => none
  | .load4 b => match findB s.fl b with
      | some (pre, ⟨_, .r4load⟩, post) => some { s with fl := pre ++ ⟨b, .r4 s.dl⟩ :: post }
      | _ => none
  | .cas4fail b => match findB s.fl b with
      | some (pre, ⟨_, .r4 _⟩, post) => some { s with fl := pre ++ ⟨b, .r4 s.dl⟩ :: post }
      | _ => none
  | .cas4ok b => match findB s.fl b with
      | some (pre, ⟨_, .r4 d⟩, post) =>
          if s.dl = d then some { s with dl := b :: s.dl, fl := pre ++ ⟨b, .r5load⟩ :: post } else none
      | _ => none
  | .load5 b => match findB s.fl b with
      | some (pre, ⟨_, .r5load⟩, post) => some { s with fl := pre ++ ⟨b, .r5 s.tf s.flag⟩ :: post }
      | _ => none
  | .cas5fail b => match findB s.fl b with
      | some (pre, ⟨_, .r5 _ _⟩, post) => some { s with fl := pre ++ ⟨b, .r5 s.tf s.flag⟩ :: post }
      | _ => none
  | .cas5ok b => match findB s.fl b with
      | some (pre, ⟨_, .r5 hh ff⟩, post) =>
          if s.tf = hh ∧ s.flag = ff then some { s with flag := .no, fl := pre ++ post } else none
      | _ => none
  | .tfCollect => some { s with tf := [], lf := s.tf ++ s.lf }
  | .lfCollect => if s.free = [] then some { s with free := s.lf, lf := [] } else none
  | .malloc => match s.free with
      | b :: rest => some { s with free := rest, live := b :: s.live }
      | [] => none
  | .freeLocal b => if b ∈ s.live then some { s with live := s.live.erase b, lf := b :: s.lf } else none
  | .takeDl => if s.pend = [] ∧ s.own = [] then some { s with pend := s.dl, dl := [] } else none
  | .procStart => match s.pend with
      | b :: rest => if s.own = [] then some { s with pend := rest, own := [(b,false)] } else none
      | [] => none
  | .procSetUse => match s.own with
      | [(b,false)] => if s.flag ≠ .freeing ∧ s.flag ≠ .never then some { s with flag := .use, own := [(b,true)] } else none
      | _ => none
  | .procNever => match s.own with
      | [(b,false)] => if s.flag = .never then some { s with own := [(b,true)] } else none
      | _ => none
  | .procGiveUp => match s.own with
      | [(b,false)] => some { s with dl := b :: s.dl, own := [] }
      | _ => none
  | .procFree => match s.own with
      | [(b,true)] => some { s with lf := b :: s.lf, own := [] }
      | _ => none

end Delayed
