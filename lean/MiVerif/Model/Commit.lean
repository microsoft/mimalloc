import MiVerif.Gen.Arith
/-! C07 — commit bookkeeping under OS refusals.
    Two small machines at the granularity of the bookkeeping units, with the outcome of every OS request a parameter
    (so a theorem over all outcome arguments is a theorem over all fault sequences):
    * `Seg`  : commit_mask / purge_mask of one segment (units of MI_COMMIT_SIZE = 64 KiB) against `os` = "every OS page of the unit
               is accessible"; operations mi_segment_commit, mi_segment_purge, mi_segment_ensure_committed as in src/segment.c, with
               the range arithmetic taken from the *regenerated* `Gen.mi_segment_commit_mask`;
    * `Arena`: blocks_inuse / blocks_committed / blocks_purge of one arena (units of 32 MiB blocks) against `os`;
               mi_arena_try_alloc_at, _mi_arena_free, mi_arena_purge as in src/arena.c. -/
namespace CommitM

abbrev Mask := Nat → Bool
def setR (m : Mask) (i n : Nat) : Mask := fun k => if i ≤ k ∧ k < i + n then true else m k
def clrR (m : Mask) (i n : Nat) : Mask := fun k => if i ≤ k ∧ k < i + n then false else m k
def allSet (m : Mask) (i n : Nat) : Bool := (List.range n).all (fun k => m (i + k))
def anySet (m : Mask) (i n : Nat) : Bool := (List.range n).any (fun k => m (i + k))

/-! ### segment -/
structure Seg where
  commit : Mask
  purge  : Mask
  os     : Mask      -- os k : every OS page of commit unit k of the segment is accessible
  info   : Nat       -- segment_info_slices
  slices : Nat       -- segment_slices
  base   : Nat       -- address of the segment

-- the arguments of `Gen.mi_segment_commit_mask`: the empty mask, `segment->kind == MI_SEGMENT_HUGE` (0: a normal segment), the info slices,
-- `mi_segment_size` as an oracle, `mi_commit_mask_create` (here: the pair (first bit, count)), the incoming mask, the segment address, the
-- rounding direction, the block range (address, size); the three trailing 0s are out-parameters the translator passes in
/-- start address, size and mask (first bit, count) for a block range at offset `D`: the regenerated function of src/segment.c -/
def rangeOf (s : Seg) (conservative D size : Nat) : Nat × Nat × (Nat × Nat) :=
  Gen.mi_segment_commit_mask (0, 0) 0 s.info (fun _ => s.slices * 65536) (fun i n => (i, n)) (0, 0) s.base conservative (s.base + D) size 0 0 0

/-- mi_segment_commit; `osOk` is the answer of `_mi_os_commit` (consulted only if the request is made) -/
def segCommit (s : Seg) (D size : Nat) (osOk : Bool) : Seg × Bool :=
  let r := rangeOf s 0 D size
  let i := r.2.2.1; let n := r.2.2.2
  if n = 0 ∨ r.2.1 = 0 then (s, true)
  else if allSet s.commit i n then ({ s with purge := clrR s.purge i n }, true)
  else if osOk then ({ s with commit := setR s.commit i n, os := setR s.os i n, purge := clrR s.purge i n }, true)
  else (s, false)

/-- does mi_segment_commit ask the OS at all? (so the harness knows whether the injected outcome was consumed) -/
def segCommitAsks (s : Seg) (D size : Nat) : Bool :=
  let r := rangeOf s 0 D size
  !(r.2.2.2 = 0 ∨ r.2.1 = 0) && !allSet s.commit r.2.2.1 r.2.2.2

/-- mi_segment_purge (allow_purge = true); `needsRecommit` is the answer of `_mi_os_purge`, `osGone` whether the OS really revoked access -/
def segPurge (s : Seg) (D size : Nat) (needsRecommit osGone : Bool) : Seg :=
  let r := rangeOf s 1 D size
  let i := r.2.2.1; let n := r.2.2.2
  if n = 0 ∨ r.2.1 = 0 then s
  else if anySet s.commit i n then
    { s with commit := if needsRecommit then clrR s.commit i n else s.commit,
             os := if osGone then clrR s.os i n else s.os,
             purge := clrR s.purge i n }
  else { s with purge := clrR s.purge i n }

/-- mi_segment_schedule_purge with a positive delay that has not expired: the committed part of the (conservative) range is registered -/
def segSchedule (s : Seg) (D size : Nat) : Seg :=
  let r := rangeOf s 1 D size
  let i := r.2.2.1; let n := r.2.2.2
  if n = 0 ∨ r.2.1 = 0 then s
  else { s with purge := fun k => if i ≤ k ∧ k < i + n then (s.commit k || s.purge k) else s.purge k }

def isFull (m : Mask) : Bool := allSet m 0 512
def isEmpty (m : Mask) : Bool := !anySet m 0 512

/-- mi_segment_ensure_committed followed by handing out the span (mi_segment_span_allocate): `none` = no page is handed out -/
def segAlloc (s : Seg) (D size : Nat) (osOk : Bool) : Seg × Option (Nat × Nat) :=
  if isFull s.commit && isEmpty s.purge then (s, some (D, size))
  else
    let r := segCommit s D size osOk
    if r.2 then (r.1, some (D, size)) else (r.1, none)

/-- the bookkeeping never claims more than the OS granted -/
def SInv (s : Seg) : Prop := ∀ k, s.commit k = true → s.os k = true

inductive SOp where
  | commit (D size : Nat) (osOk : Bool)
  | purge (D size : Nat) (needsRecommit osGone : Bool)
  | alloc (D size : Nat) (osOk : Bool)
  | sched (D size : Nat)

/-- what the OS layer promises about a purge: access is revoked only when it also reports that a re-commit is needed -/
def SOp.honest : SOp → Prop
  | .purge _ _ nr og => og = true → nr = true
  | _ => True

def sStep (s : Seg) : SOp → Seg
  | .commit D size ok => (segCommit s D size ok).1
  | .purge D size nr og => segPurge s D size nr og
  | .alloc D size ok => (segAlloc s D size ok).1
  | .sched D size => segSchedule s D size

/-! ### arena -/
structure Arena where
  inuse : Mask
  committed : Mask
  purge : Mask
  os : Mask          -- os k : every OS page of arena block k is accessible

/-- mi_arena_try_alloc_at after a successful claim of blocks [i, i+n); the Bool is memid.initially_committed -/
def aAlloc (a : Arena) (i n : Nat) (commit osOk : Bool) : Arena × Bool :=
  let a := { a with inuse := setR a.inuse i n, purge := clrR a.purge i n }
  if commit then
    if allSet a.committed i n then (a, true)
    else
      -- the bits are claimed, the OS is asked, and on a refusal the bits are cleared again
      if osOk then ({ a with committed := setR a.committed i n, os := setR a.os i n }, true)
      else ({ a with committed := clrR a.committed i n }, false)
  else
    if allSet a.committed i n then (a, true)
    else ({ a with committed := clrR a.committed i n }, false)

/-- mi_arena_purge -/
def aPurge (a : Arena) (i n : Nat) (needsRecommit osGone : Bool) : Arena :=
  { a with committed := if needsRecommit then clrR a.committed i n else a.committed,
           os := if osGone then clrR a.os i n else a.os,
           purge := clrR a.purge i n }

/-- first part of _mi_arena_free: a range that is not entirely committed is recorded as uncommitted -/
def aMark (a : Arena) (i n : Nat) (allCommitted : Bool) : Arena :=
  if allCommitted then a else { a with committed := clrR a.committed i n }
/-- mi_arena_schedule_purge; `mode` 0: purging disabled, 1: purge now, otherwise: schedule -/
def aSched (a : Arena) (i n : Nat) (mode : Nat) (needsRecommit osGone : Bool) : Arena :=
  if mode = 0 then a else if mode = 1 then aPurge a i n needsRecommit osGone else { a with purge := setR a.purge i n }
/-- _mi_arena_free of blocks [i, i+n): `allCommitted` = (committed_size == size) -/
def aFree (a : Arena) (i n : Nat) (allCommitted : Bool) (mode : Nat) (needsRecommit osGone : Bool) : Arena :=
  let b := aSched (aMark a i n allCommitted) i n mode needsRecommit osGone
  { b with inuse := clrR b.inuse i n }

/-- free blocks that are recorded as committed are accessible -/
def AInv (a : Arena) : Prop := ∀ k, a.inuse k = false → a.committed k = true → a.os k = true

inductive AOp where
  | alloc (i n : Nat) (commit osOk : Bool)
  | free (i n : Nat) (allCommitted : Bool) (mode : Nat) (needsRecommit osGone : Bool)
  | purge (i n : Nat) (needsRecommit osGone : Bool)

def aStep (a : Arena) : AOp → Arena
  | .alloc i n c ok => (aAlloc a i n c ok).1
  | .free i n allc mode nr og => aFree a i n allc mode nr og
  | .purge i n nr og => aPurge a i n nr og

/-- what the caller (a segment being freed) and the OS layer guarantee for one step: `allCommitted` is passed only for a range that
    is accessible, and access is revoked by a purge only when a re-commit is reported as needed -/
def AOp.ok (a : Arena) : AOp → Prop
  | .alloc _ _ _ _ => True
  | .free i n allc _ nr og => (og = true → nr = true) ∧ (allc = true → ∀ k, i ≤ k → k < i + n → a.os k = true)
  | .purge _ _ nr og => og = true → nr = true

def AOk : Arena → List AOp → Prop
  | _, [] => True
  | a, op :: ops => op.ok a ∧ AOk (aStep a op) ops

end CommitM
