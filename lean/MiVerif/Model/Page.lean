-- sequential model of the free lists of one page, with the `used` counter and the invariant (lemmas: Lemmas/PageReach.lean)
namespace PageM

abbrev Blk := Nat

structure Page where
  reserved : Nat
  capacity : Nat
  used     : Nat
  free     : List Blk
  lf       : List Blk        -- local_free
  tf       : List Blk        -- thread_free (already freed remotely, still counted in `used`)
  live     : List Blk        -- ghost: blocks the program holds

def pop (p : Page) : Option (Blk × Page) :=
  match p.free with
  | [] => none
  | b :: r => some (b, { p with free := r, used := p.used + 1, live := b :: p.live })

def freeLocal (p : Page) (b : Blk) : Page := { p with lf := b :: p.lf, used := p.used - 1, live := p.live.erase b }
def freeRemote (p : Page) (b : Blk) : Page := { p with tf := b :: p.tf, live := p.live.erase b }
def tfCollect (p : Page) : Page := { p with lf := p.tf ++ p.lf, tf := [], used := p.used - p.tf.length }
def lfCollect (p : Page) : Page := if p.free = [] then { p with free := p.lf, lf := [] } else p
def lfCollectForce (p : Page) : Page := { p with free := p.lf ++ p.free, lf := [] }
/-- extend by `n` fresh blocks (policy-abstract: any n with capacity + n ≤ reserved) -/
def extend (p : Page) (n : Nat) : Page :=
  { p with free := (List.range n).map (· + p.capacity) ++ p.free, capacity := p.capacity + n }

structure Inv (p : Page) : Prop where
  nodup : (p.free ++ p.lf ++ p.tf ++ p.live).Nodup
  bound : ∀ b : Nat, b ∈ p.free ++ p.lf ++ p.tf ++ p.live → b < p.capacity
  cap   : p.capacity ≤ p.reserved
  cover : (p.free ++ p.lf ++ p.tf ++ p.live).length = p.capacity
  used  : p.used = p.tf.length + p.live.length

/-- micro-operations of a page (single owner thread + remote frees that already completed their push) -/
inductive Op where
  | pop
  | freeLocal (b : Blk)
  | freeRemote (b : Blk)
  | tfCollect
  | lfCollect
  | lfCollectForce
  | extend (n : Nat)

/-- a micro-operation with the guards of the C code (a block can only be freed while live, the free list is only popped when
    non-empty, extension only within `reserved`); an operation whose guard fails leaves the page unchanged -/
def step (p : Page) : Op → Page
  | .pop => match pop p with | some (_, p') => p' | none => p
  | .freeLocal b => if b ∈ p.live then freeLocal p b else p
  | .freeRemote b => if b ∈ p.live then freeRemote p b else p
  | .tfCollect => tfCollect p
  | .lfCollect => lfCollect p
  | .lfCollectForce => lfCollectForce p
  | .extend n => if p.capacity + n ≤ p.reserved then extend p n else p

/-- a freshly initialised page: nothing handed out, nothing on any list, capacity 0 -/
def init (reserved : Nat) : Page := { reserved := reserved, capacity := 0, used := 0, free := [], lf := [], tf := [], live := [] }

/-- executable form of the invariant (evaluated by the driver on snapshots of real pages) -/
def invB (p : Page) : Bool :=
  let all := p.free ++ p.lf ++ p.tf ++ p.live
  all.Nodup && all.all (· < p.capacity) && decide (p.capacity ≤ p.reserved) && decide (all.length = p.capacity) && decide (p.used = p.tf.length + p.live.length)

/-- what the heap walk reports for a page whose lists were force-collected: every index below `capacity` that is not on the free list, ascending -/
def visitList (p : Page) : List Nat := (List.range p.capacity).filter (fun i => !(p.free.contains i))

/-- address of block `i` of a page whose block area starts at `start` -/
def blockAddr (start bsize i : Nat) : Nat := start + i * bsize

end PageM
