import MiVerif.Model.Abandon
/-! executable validator for the hand-over model, proved sound w.r.t. the `Step` relation -/
inductive Lbl where
  | markStore (t : Nat) | markOr (t : Nat) | markInc | clearAnd (t : Nat) | clearMiss
  | remark (t : Nat) | clearDec (t : Nat) | clearOwn (t : Nat) | reMarkStore (t : Nat) | ownAgain (t : Nat)
deriving Repr

def exec (s : St) : Lbl → Option St
  | .markStore t => if s.owner = t ∧ t ≠ 0 then some { s with owner := 0, fl := .m1 t :: s.fl } else none
  | .markOr t    => if .m1 t ∈ s.fl then some { s with bit := true, fl := .m2 :: s.fl.erase (.m1 t) } else none
  | .markInc     => if .m2 ∈ s.fl then some { s with cnt := s.cnt + 1, fl := s.fl.erase .m2 } else none
  | .clearAnd t  => if s.bit = true ∧ t ≠ 0 then some { s with bit := false, fl := .c1 t :: s.fl } else none
  | .clearMiss   => if s.bit = false then some s else none
  | .remark t    => if .c1 t ∈ s.fl then some { s with bit := true, fl := s.fl.erase (.c1 t) } else none
  | .clearDec t  => if .c1 t ∈ s.fl then some { s with cnt := s.cnt - 1, fl := .c2 t :: s.fl.erase (.c1 t) } else none
  | .clearOwn t  => if .c2 t ∈ s.fl then some { s with owner := t, fl := s.fl.erase (.c2 t) } else none
  | .reMarkStore t => if .c2 t ∈ s.fl then some { s with fl := .m1 t :: s.fl.erase (.c2 t) } else none
  | .ownAgain t  => if s.owner = t then some s else none

theorem exec_sound {s s' : St} {l : Lbl} (h : exec s l = some s') : Step s s' := by
  cases l <;> obtain ⟨hc, rfl⟩ := Option.ite_some_none_eq_some.1 h
  · exact .markStore s _ hc.1 hc.2
  · exact .markOr s _ hc
  · exact .markInc s hc
  · exact .clearAnd s _ hc.1 hc.2
  · exact .clearMiss s hc
  · exact .remark s _ hc
  · exact .clearDec s _ hc
  · exact .clearOwn s _ hc
  · exact .reMarkStore s _ hc
  · exact .ownAgain s _ hc

def run (s : St) : List Lbl → Option St
  | [] => some s
  | l :: ls => match exec s l with
    | some s' => run s' ls
    | none => none

/-- every state reached by an accepted log satisfies the invariant (hence `single_adopter`) -/
theorem run_inv {s s' : St} {ls : List Lbl} (hi : AInv s) (h : run s ls = some s') : AInv s' := by
  induction ls generalizing s with
  | nil => cases h; exact hi
  | cons l ls ih =>
    simp only [run] at h
    split at h
    · rename_i s1 he; exact ih (inv_step hi (exec_sound he)) h
    · cases h

-- a log as the scheduler would produce it: t7 abandons; t9 and t8 race for the clear; t9 wins
#eval (run { owner := 7, bit := false, cnt := 0, fl := [] }
  [.markStore 7, .markOr 7, .clearAnd 9, .clearMiss, .clearDec 9, .markInc, .clearOwn 9]).map (fun s => (s.owner, s.bit, s.cnt))
-- a log the model rejects: two successful clears of one mark
#eval (run { owner := 7, bit := false, cnt := 0, fl := [] }
  [.markStore 7, .markOr 7, .clearAnd 9, .clearAnd 8]).isSome
#print axioms run_inv
