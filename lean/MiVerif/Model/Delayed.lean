-- the delayed-free protocol: one page, one heap, any number of in-flight remote frees, any interleaving
namespace Delayed

abbrev Blk := Nat
inductive Flag where | use | freeing | no | never deriving DecidableEq, Repr

inductive Pc where
  | r1                                     -- about to load xthread_free
  | r2 (h : List Blk) (f : Flag)           -- loaded word (h,f); about to CAS
  | r4load                                 -- won CAS with use_delayed (flag now freeing); about to load heap.delayed
  | r4 (d : List Blk)                      -- loaded delayed head; about to CAS-push
  | r5load                                 -- pushed on heap.delayed; about to load xthread_free
  | r5 (h : List Blk) (f : Flag)           -- about to CAS flag := no
deriving DecidableEq

structure Flight where
  b  : Blk
  pc : Pc

def Flight.holds (x : Flight) : Bool :=      -- does the flight still hold its block privately?
  match x.pc with
  | .r1 | .r2 _ _ | .r4load | .r4 _ => true
  | .r5load | .r5 _ _ => false               -- already pushed on heap.delayed

def Flight.isFreeing (x : Flight) : Bool :=
  match x.pc with
  | .r4load | .r4 _ | .r5load | .r5 _ _ => true
  | _ => false

structure St where
  tf   : List Blk
  flag : Flag
  dl   : List Blk          -- heap.thread_delayed_free
  pend : List Blk          -- owner-local: delayed list taken over, not yet processed
  own  : List (Blk × Bool) -- owner is processing this delayed block (length ≤ 1); Bool: flag already re-armed
  free : List Blk
  lf   : List Blk
  live : List Blk
  fl   : List Flight

def held (fl : List Flight) : List Blk := (fl.filter (·.holds)).map (·.b)

def allBlocks (s : St) : List Blk := s.tf ++ s.dl ++ s.pend ++ s.own.map (·.1) ++ s.free ++ s.lf ++ s.live ++ held s.fl

inductive Step : St → St → Prop where
  -- program on any thread starts a remote free of a live block
  | start (s) (b) (hb : b ∈ s.live) :
      Step s { s with live := s.live.erase b, fl := ⟨b, .r1⟩ :: s.fl }
  | load (s) (pre post) (b) (h : s.fl = pre ++ ⟨b, .r1⟩ :: post) :
      Step s { s with fl := pre ++ ⟨b, .r2 s.tf s.flag⟩ :: post }
  | cas2fail (s) (pre post) (b hh ff) (h : s.fl = pre ++ ⟨b, .r2 hh ff⟩ :: post) :   -- mismatch or spurious
      Step s { s with fl := pre ++ ⟨b, .r2 s.tf s.flag⟩ :: post }
  | cas2push (s) (pre post) (b hh ff) (h : s.fl = pre ++ ⟨b, .r2 hh ff⟩ :: post)
      (heq : s.tf = hh ∧ s.flag = ff) (hne : ff ≠ .use) :
      Step s { s with tf := b :: s.tf, fl := pre ++ post }
  | cas2delay (s) (pre post) (b hh ff) (h : s.fl = pre ++ ⟨b, .r2 hh ff⟩ :: post)
      (heq : s.tf = hh ∧ s.flag = ff) (hu : ff = .use) :
      Step s { s with flag := .freeing, fl := pre ++ ⟨b, .r4load⟩ :: post }
  | load4 (s) (pre post) (b) (h : s.fl = pre ++ ⟨b, .r4load⟩ :: post) :
      Step s { s with fl := pre ++ ⟨b, .r4 s.dl⟩ :: post }
  | cas4fail (s) (pre post) (b d) (h : s.fl = pre ++ ⟨b, .r4 d⟩ :: post) :
      Step s { s with fl := pre ++ ⟨b, .r4 s.dl⟩ :: post }
  | cas4ok (s) (pre post) (b d) (h : s.fl = pre ++ ⟨b, .r4 d⟩ :: post) (heq : s.dl = d) :
      Step s { s with dl := b :: s.dl, fl := pre ++ ⟨b, .r5load⟩ :: post }
  | load5 (s) (pre post) (b) (h : s.fl = pre ++ ⟨b, .r5load⟩ :: post) :
      Step s { s with fl := pre ++ ⟨b, .r5 s.tf s.flag⟩ :: post }
  | cas5fail (s) (pre post) (b hh ff) (h : s.fl = pre ++ ⟨b, .r5 hh ff⟩ :: post) :
      Step s { s with fl := pre ++ ⟨b, .r5 s.tf s.flag⟩ :: post }
  | cas5ok (s) (pre post) (b hh ff) (h : s.fl = pre ++ ⟨b, .r5 hh ff⟩ :: post) (heq : s.tf = hh ∧ s.flag = ff) :
      Step s { s with flag := .no, fl := pre ++ post }
  -- owner
  | tfCollect (s) :
      Step s { s with tf := [], lf := s.tf ++ s.lf }
  | lfCollect (s) (h : s.free = []) :
      Step s { s with free := s.lf, lf := [] }
  | malloc (s) (b rest) (h : s.free = b :: rest) :
      Step s { s with free := rest, live := b :: s.live }
  | freeLocal (s) (b) (hb : b ∈ s.live) :
      Step s { s with live := s.live.erase b, lf := b :: s.lf }
  | takeDl (s) (h : s.pend = []) (ho : s.own = []) :
      Step s { s with pend := s.dl, dl := [] }
  | procStart (s) (b rest) (h : s.pend = b :: rest) (ho : s.own = []) :
      Step s { s with pend := rest, own := [(b,false)] }
  | procSetUse (s) (b) (ho : s.own = [(b,false)]) (h : s.flag ≠ .freeing) (h' : s.flag ≠ .never) :
      Step s { s with flag := .use, own := [(b,true)] }
  | procNever (s) (b) (ho : s.own = [(b,false)]) (h' : s.flag = .never) :
      Step s { s with own := [(b,true)] }
  | procGiveUp (s) (b) (ho : s.own = [(b,false)]) :      -- the owner saw `freeing` during its 4 yields and re-pushes (the flag may have changed since)
      Step s { s with dl := b :: s.dl, own := [] }
  | procFree (s) (b) (ho : s.own = [(b,true)]) :
      Step s { s with lf := b :: s.lf, own := [] }

/-- executions: any finite sequence of atomic steps of any threads -/
inductive Reach : St → St → Prop where
  | refl (s) : Reach s s
  | step {s t u} : Reach s t → Step t u → Reach s u

def nFreeing (fl : List Flight) : Nat := (fl.filter (·.isFreeing)).length

structure Inv (s : St) : Prop where
  nodup    : (allBlocks s).Nodup
  freeing1 : (s.flag = .freeing → nFreeing s.fl = 1) ∧ (s.flag ≠ .freeing → nFreeing s.fl = 0)
  pushed   : ∀ x ∈ s.fl, x.isFreeing = true → x.holds = false → x.b ∈ s.dl ++ s.pend ++ s.own.map (·.1)
  ownOk    : ∀ b, (b,true) ∈ s.own → ∀ x ∈ s.fl, x.isFreeing = true → x.holds = false → x.b ≠ b
  noDelay  : s.flag = .no → s.dl ++ s.pend ++ (s.own.filter (fun p => !p.2)).map (·.1) ≠ []
  own1     : s.own.length ≤ 1

end Delayed
