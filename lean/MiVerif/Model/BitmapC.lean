-- concurrent bitmap claims (arena blocks_inuse): abstract bits and ghost ownership intervals
namespace BitmapC

/-- an owner of a contiguous run of bits `[a, b)`; `kind`: 0 = completed claim / reserved, 1 = claiming, 2 = rolling back, 3 = freeing -/
structure Own where
  a : Nat
  b : Nat
  kind : Nat
deriving DecidableEq

structure St where
  bits : Nat → Bool
  owns : List Own

def covers (o : Own) (i : Nat) : Prop := o.a ≤ i ∧ i < o.b

def setRange (f : Nat → Bool) (lo hi : Nat) (v : Bool) : Nat → Bool :=
  fun i => if lo ≤ i ∧ i < hi then v else f i

inductive Step : St → St → Prop where
  /-- a thread starts an across-claim attempt (owns nothing yet) at position `a` -/
  | start (s) (a : Nat) : Step s { s with owns := ⟨a, a, 1⟩ :: s.owns }
  /-- successful CAS of the next chunk `[b, b')`: all its bits were 0 -/
  | claimTop (s) (pre post) (o : Own) (b' : Nat) (h : s.owns = pre ++ o :: post) (hk : o.kind = 1)
      (hb : o.b < b') (hfree : ∀ i, o.b ≤ i → i < b' → s.bits i = false) :
      Step s { bits := setRange s.bits o.b b' true, owns := pre ++ ⟨o.a, b', 1⟩ :: post }
  /-- a CAS found a bit set (or failed spuriously): switch to roll-back -/
  | fail (s) (pre post) (o : Own) (h : s.owns = pre ++ o :: post) (hk : o.kind = 1) :
      Step s { s with owns := pre ++ ⟨o.a, o.b, 2⟩ :: post }
  /-- roll-back of an intermediate field by a plain `store 0`: clears the WHOLE field `[64k, 64k+64)`;
      the code does this only for fields it claimed 0 → FULL, i.e. the field is the top of its own run -/
  | storeZero (s) (pre post) (o : Own) (k : Nat) (h : s.owns = pre ++ o :: post) (hk : o.kind = 2)
      (htop : o.b = 64 * k + 64) (hin : o.a ≤ 64 * k) :
      Step s { bits := setRange s.bits (64 * k) (64 * k + 64) false, owns := pre ++ ⟨o.a, 64 * k, 2⟩ :: post }
  /-- roll-back of the initial field by CAS: clears exactly the remaining own bits -/
  | casClear (s) (pre post) (o : Own) (h : s.owns = pre ++ o :: post) (hk : o.kind = 2) :
      Step s { bits := setRange s.bits o.a o.b false, owns := pre ++ post }
  /-- all chunks claimed: the run becomes a completed allocation -/
  | finish (s) (pre post) (o : Own) (h : s.owns = pre ++ o :: post) (hk : o.kind = 1) :
      Step s { s with owns := pre ++ ⟨o.a, o.b, 0⟩ :: post }
  /-- freeing a completed allocation: field by field from the bottom (`fetch_and`) -/
  | freeStart (s) (pre post) (o : Own) (h : s.owns = pre ++ o :: post) (hk : o.kind = 0) :
      Step s { s with owns := pre ++ ⟨o.a, o.b, 3⟩ :: post }
  | freeChunk (s) (pre post) (o : Own) (a' : Nat) (h : s.owns = pre ++ o :: post) (hk : o.kind = 3)
      (ha : o.a < a') (ha' : a' ≤ o.b) :
      Step s { bits := setRange s.bits o.a a' false, owns := pre ++ (if a' = o.b then [] else [⟨a', o.b, 3⟩]) ++ post }

def ind (o : Own) (i : Nat) : Nat := if o.a ≤ i ∧ i < o.b then 1 else 0
def cnt (l : List Own) (i : Nat) : Nat := (l.map (ind · i)).sum

@[simp] theorem cnt_nil (i : Nat) : cnt [] i = 0 := rfl
@[simp] theorem cnt_cons (o : Own) (l : List Own) (i : Nat) : cnt (o :: l) i = ind o i + cnt l i := by
  simp [cnt]
@[simp] theorem cnt_append (l₁ l₂ : List Own) (i : Nat) : cnt (l₁ ++ l₂) i = cnt l₁ i + cnt l₂ i := by
  simp [cnt]

/-- every bit is owned exactly as often as it is set (set ⇒ exactly one owner, clear ⇒ none); runs are well-formed -/
structure Inv (s : St) : Prop where
  count : ∀ i, cnt s.owns i = (if s.bits i = true then 1 else 0)
  wf    : ∀ o ∈ s.owns, o.a ≤ o.b

/-- a bit as a number -/
def bn (b : Bool) : Nat := if b = true then 1 else 0

/-- indicator of the interval `[a, b)` -/
def iv (a b i : Nat) : Nat := if a ≤ i ∧ i < b then 1 else 0

theorem bn_le (b : Bool) : bn b ≤ 1 := by cases b <;> decide

theorem ind_eq (o : Own) (i : Nat) : ind o i = iv o.a o.b i := rfl
theorem cnt_one (a b kind i : Nat) : cnt [⟨a, b, kind⟩] i = iv a b i := rfl

theorem iv_split {a b c : Nat} (hab : a ≤ b) (hbc : b ≤ c) (i : Nat) : iv a c i = iv a b i + iv b c i := by
  unfold iv
  -- `i` is in the left part, in the right part, or in neither
  by_cases h1 : a ≤ i ∧ i < b
  · rw [if_pos h1, if_pos ⟨h1.1, by omega⟩, if_neg (by omega)]
  · by_cases h2 : b ≤ i ∧ i < c
    · rw [if_neg h1, if_pos h2, if_pos ⟨by omega, h2.2⟩]
    · rw [if_neg h1, if_neg h2, if_neg (by omega)]

theorem iv_empty (a i : Nat) : iv a a i = 0 := by unfold iv; split <;> omega

/-- an empty run counts nothing: it makes no difference whether it is dropped or kept -/
theorem cnt_unless_empty (a b kind i : Nat) : cnt (if a = b then [] else [⟨a, b, kind⟩]) i = iv a b i := by
  split
  · rename_i e; rw [e, iv_empty]; rfl
  · rfl

theorem bn_set {f : Nat → Bool} {lo hi : Nat} (hfree : ∀ i, lo ≤ i → i < hi → f i = false) (i : Nat) :
    bn (setRange f lo hi true i) = bn (f i) + iv lo hi i := by
  unfold setRange iv; split
  · rename_i h; rw [hfree i h.1 h.2]; rfl
  · rfl

theorem bn_clear {f : Nat → Bool} {lo hi i : Nat} (hset : iv lo hi i ≤ bn (f i)) :
    bn (setRange f lo hi false i) + iv lo hi i = bn (f i) := by
  have := bn_le (f i)
  unfold setRange; unfold iv at hset ⊢; split
  · rename_i h
    rw [if_pos h] at hset
    exact Nat.le_antisymm hset this
  · rfl

theorem Inv.count_at {s : St} (hinv : Inv s) {pre post : List Own} {o : Own} (h : s.owns = pre ++ o :: post) (i : Nat) :
    cnt pre i + (ind o i + cnt post i) = bn (s.bits i) := by
  rw [← cnt_cons, ← cnt_append, ← h]
  exact hinv.count i

/-- the frame rule: the run `o` is replaced by the runs `os`, and at every index runs and bits change by the same amount -/
theorem inv_replace {s : St} (hinv : Inv s) {pre post os : List Own} {o : Own} (h : s.owns = pre ++ o :: post) {bits' : Nat → Bool}
    (hcnt : ∀ i, cnt os i + bn (s.bits i) = ind o i + bn (bits' i))
    (hwf : o.a ≤ o.b → ∀ x ∈ os, x.a ≤ x.b) : Inv { bits := bits', owns := pre ++ (os ++ post) } := by
  refine ⟨fun i => ?_, ?_⟩
  · show cnt (pre ++ (os ++ post)) i = bn (bits' i)
    rw [cnt_append, cnt_append]
    have := hinv.count_at h i
    have := hcnt i
    omega
  · have hw := hinv.wf
    rw [h] at hw
    simp only [List.forall_mem_append, List.forall_mem_cons] at hw ⊢
    exact ⟨hw.1, hwf hw.2.1, hw.2.2⟩

/-- the frame rule for a step that clears the bits `[lo, hi)`: the runs `os` that are left of `o` and the cleared range tile `o` -/
theorem inv_clear {s : St} (hinv : Inv s) {pre post os : List Own} {o : Own} (h : s.owns = pre ++ o :: post) {lo hi : Nat}
    (htile : ∀ i, cnt os i + iv lo hi i = ind o i) (hwf : o.a ≤ o.b → ∀ x ∈ os, x.a ≤ x.b) :
    Inv { bits := setRange s.bits lo hi false, owns := pre ++ (os ++ post) } := by
  refine inv_replace hinv h (fun i => ?_) hwf
  have ht := htile i
  -- a cleared bit is one of `o`'s, so it was set
  have hc := hinv.count_at h i
  have : bn (setRange s.bits lo hi false i) + iv lo hi i = bn (s.bits i) := bn_clear (by omega)
  omega

theorem inv_relabel {s : St} (hinv : Inv s) {pre post : List Own} {o : Own} (h : s.owns = pre ++ o :: post) (kind : Nat) :
    Inv { s with owns := pre ++ ⟨o.a, o.b, kind⟩ :: post } :=
  inv_replace hinv h (os := [_]) (fun i => by rw [cnt_one, ind_eq]) (fun hab => List.forall_mem_singleton.2 hab)

theorem inv_step {s s' : St} (hinv : Inv s) (hstep : Step s s') : Inv s' := by
  cases hstep with
  | start a =>
    obtain ⟨hc, hwf⟩ := hinv
    refine ⟨fun i => ?_, List.forall_mem_cons.2 ⟨Nat.le_refl a, hwf⟩⟩
    rw [cnt_cons, ← hc i, ind_eq, iv_empty, Nat.zero_add]
  | claimTop pre post o b' h hk hb hfree =>
    have hab := hinv.wf o (h ▸ List.mem_append_cons_self)
    refine inv_replace hinv h (os := [_]) (fun i => ?_) (fun _ => List.forall_mem_singleton.2 (Nat.le_trans hab (Nat.le_of_lt hb)))
    rw [bn_set hfree, cnt_one, ind_eq, iv_split hab (Nat.le_of_lt hb)]
    omega
  | fail pre post o h hk => exact inv_relabel hinv h 2
  | finish pre post o h hk => exact inv_relabel hinv h 0
  | freeStart pre post o h hk => exact inv_relabel hinv h 3
  | storeZero pre post o k h hk htop hin =>
    -- the cleared field is the top of the run
    refine inv_clear hinv h (os := [_]) (fun i => ?_) (fun _ => List.forall_mem_singleton.2 hin)
    rw [cnt_one, ind_eq, htop]
    exact (iv_split hin (Nat.le_add_right _ 64) i).symm
  | casClear pre post o h hk => exact inv_clear hinv h (os := []) (fun i => Nat.zero_add _) (fun _ => nofun)
  | freeChunk pre post o a' h hk ha ha' =>
    rw [List.append_assoc]
    refine inv_clear hinv h (fun i => ?_) (fun _ x hx => ?_)
    · rw [cnt_unless_empty, ind_eq, Nat.add_comm]
      exact (iv_split (Nat.le_of_lt ha) ha' i).symm
    · split at hx
      · cases hx
      · rw [List.mem_singleton.1 hx]; exact ha'

/-- two different completed claims never share a bit -/
theorem claims_disjoint {s : St} (h : Inv s) (i : Nat) : cnt s.owns i ≤ 1 := by
  rw [h.count i]; exact bn_le (s.bits i)

/-- when nothing is owned any more, every bit is clear -/
theorem all_free_again {s : St} (h : Inv s) (hn : s.owns = []) (i : Nat) : s.bits i = false := by
  have := h.count i
  rw [hn, cnt_nil] at this
  exact Bool.eq_false_iff.2 fun hb => Nat.zero_ne_one (this.trans (if_pos hb))

end BitmapC
#print axioms BitmapC.inv_step
#print axioms BitmapC.all_free_again
