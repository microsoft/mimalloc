import MiVerif.Model.Segment
/-! executable tiling check that `Driver/C01` evaluates on every model state of the direct drive (each of which it then compares with the
    slice array and the span queues of the real segment).  It looks at more than the proved representation invariant `SegM.Repr` (queues,
    the `used` counter, no two adjacent free spans) and is not related to it by a theorem. -/
namespace SegM

/-- walk the spans from slice 0: list of (start, count, used) -/
def spans (g : Seg) : List (Nat × Nat × Bool) :=
  let rec go (fuel i : Nat) (acc : List (Nat × Nat × Bool)) : List (Nat × Nat × Bool) :=
    match fuel with
    | 0 => acc.reverse
    | fuel+1 =>
      if i ≥ g.entries then acc.reverse else
        let s := get g i
        if s.count = 0 then ((i, 0, false) :: acc).reverse   -- broken tiling marker
        else go fuel (i + s.count) ((i, s.count, s.bs > 0) :: acc)
  go (g.entries + 1) 0 []

def spanOk (g : Seg) (sp : Nat × Nat × Bool) : Bool :=
  let (s, c, u) := sp
  let first := get g s
  let l := s + c - 1
  decide (c > 0) && decide (first.off = 0) && decide (s + c ≤ g.entries) &&
  (if c > 1 then
     let last := get g l
     decide (last.off = c - 1) && decide (last.count = 0) && (if u then decide (last.bs = 1) else decide (last.bs = 0))
   else true) &&
  (if u then (List.range (min (c - 1) 255)).all (fun k =>
      let f := get g (s + k + 1)
      decide (f.off = k + 1) && decide (f.count = 0) && decide (f.bs = 1))
   else
      -- free span: in exactly the queue of its bin, once
      decide ((g.queues[sliceBin8 c]!).count s = 1))

def tilingOk (g : Seg) : Bool :=
  let sp := spans g
  sp.all (spanOk g) &&
  -- spans end exactly at entries
  (match sp.getLast? with | some (s, c, _) => decide (s + c = g.entries) | none => false) &&
  -- queues contain only free span starts, all queues together have as many entries as there are free spans
  decide (((List.range 36).map (fun b => (g.queues[b]!).length)).sum = (sp.filter (fun x => !x.2.2)).length) &&
  -- used counter = used spans minus the info span
  decide (g.used + 1 = (sp.filter (fun x => x.2.2)).length) &&
  -- no two adjacent free spans (coalescing is complete)
  (sp.zip (sp.drop 1)).all (fun (a, b) => a.2.2 || b.2.2)

end SegM

