-- hand-over of an abandoned segment (arena bit variant): one segment, any number of threads, one transition per atomic operation
inductive Fl where
  | m1 (t : Nat)   -- owner stored thread_id := 0, bit not yet set
  | m2             -- bit set, abandoned_count not yet incremented
  | c1 (t : Nat)   -- fetch_and cleared the bit (was set), count not yet decremented
  | c2 (t : Nat)   -- count decremented, thread_id not yet stored
deriving DecidableEq

def Fl.holds : Fl → Bool
  | .m1 _ => true | .m2 => false | .c1 _ => true | .c2 _ => true
def Fl.isM2 : Fl → Bool | .m1 _ => false | .m2 => true | .c1 _ => false | .c2 _ => false
def Fl.isC1 : Fl → Bool | .m1 _ => false | .m2 => false | .c1 _ => true | .c2 _ => false

structure St where
  owner : Nat
  bit   : Bool
  cnt   : Int
  fl    : List Fl

def b2n (b : Bool) : Nat := if b then 1 else 0

def holders (l : List Fl) : Nat := l.countP Fl.holds
def nM2 (l : List Fl) : Nat := l.countP Fl.isM2
def nC1 (l : List Fl) : Nat := l.countP Fl.isC1

inductive Step : St → St → Prop
  | markStore (s t) : s.owner = t → t ≠ 0 → Step s { s with owner := 0, fl := .m1 t :: s.fl }
  | markOr (s t)   : .m1 t ∈ s.fl → Step s { s with bit := true, fl := .m2 :: s.fl.erase (.m1 t) }
  | markInc (s)    : .m2 ∈ s.fl → Step s { s with cnt := s.cnt + 1, fl := s.fl.erase .m2 }
  | clearAnd (s t) : s.bit = true → t ≠ 0 → Step s { s with bit := false, fl := .c1 t :: s.fl }
  | clearMiss (s)  : s.bit = false → Step s s
  | remark (s t)   : .c1 t ∈ s.fl → Step s { s with bit := true, fl := s.fl.erase (.c1 t) }
  | clearDec (s t) : .c1 t ∈ s.fl → Step s { s with cnt := s.cnt - 1, fl := .c2 t :: s.fl.erase (.c1 t) }
  | clearOwn (s t) : .c2 t ∈ s.fl → Step s { s with owner := t, fl := s.fl.erase (.c2 t) }
  /-- a holder that does not keep the segment (visited by a collect, still in use) marks it again: `thread_id := 0` (it is 0 already),
      then the same or / increment as a fresh mark -/
  | reMarkStore (s t) : .c2 t ∈ s.fl → Step s { s with fl := .m1 t :: s.fl.erase (.c2 t) }
  /-- the new owner stores its id once more (mi_segment_reclaim) -/
  | ownAgain (s t) : s.owner = t → Step s s

structure AInv (s : St) : Prop where
  token : b2n s.bit + holders s.fl + b2n (decide (s.owner ≠ 0)) = 1
  count : s.cnt = (b2n s.bit : Int) - nM2 s.fl + nC1 s.fl
  tids  : ∀ t, (.m1 t ∈ s.fl ∨ .c1 t ∈ s.fl ∨ .c2 t ∈ s.fl) → t ≠ 0

theorem holders_cons (a l) : holders (a :: l) = holders l + b2n a.holds := by
  simp [holders, List.countP_cons, b2n]
theorem nM2_cons (a l) : nM2 (a :: l) = nM2 l + b2n a.isM2 := by
  simp [nM2, List.countP_cons, b2n]
theorem nC1_cons (a l) : nC1 (a :: l) = nC1 l + b2n a.isC1 := by
  simp [nC1, List.countP_cons, b2n]
theorem b2n_true : b2n true = 1 := rfl
theorem b2n_false : b2n false = 0 := rfl
theorem b2n_ne {n : Nat} (h : n ≠ 0) : b2n (decide (n ≠ 0)) = 1 := by simp [b2n, h]
theorem b2n_z : b2n (decide ((0:Nat) ≠ 0)) = 0 := by simp [b2n]
theorem b2n_le (b) : b2n b ≤ 1 := by cases b <;> simp [b2n]
theorem b2n_eq_zero {b : Bool} : b2n b = 0 ↔ b = false := by cases b <;> simp [b2n]
theorem b2n_ne_eq_zero {n : Nat} : b2n (decide (n ≠ 0)) = 0 ↔ n = 0 := by simp [b2n]

/-- proves the `tids` conjunct after a step that only erases a flight from the conjunct `h` before the step (`AInv.of_edit` below covers
    that case with the others) -/
macro "tid_tac" h:ident : tactic => `(tactic|
  (intro u hu
   apply $h u
   rcases hu with hu | hu | hu
   · exact Or.inl (by first | exact List.mem_of_mem_erase hu | exact hu)
   · exact Or.inr (Or.inl (by first | exact List.mem_of_mem_erase hu | exact hu))
   · exact Or.inr (Or.inr (by first | exact List.mem_of_mem_erase hu | exact hu))))

/-- the thread id a flight carries is not 0 -/
def Fl.tidOk : Fl → Prop
  | .m1 t | .c1 t | .c2 t => t ≠ 0
  | .m2 => True

theorem tids_iff {l : List Fl} : (∀ t, (.m1 t ∈ l ∨ .c1 t ∈ l ∨ .c2 t ∈ l) → t ≠ 0) ↔ ∀ x ∈ l, x.tidOk := by
  constructor
  · intro h x hx
    cases x with
    | m1 t => exact h t (.inl hx)
    | m2 => trivial
    | c1 t => exact h t (.inr (.inl hx))
    | c2 t => exact h t (.inr (.inr hx))
  · intro h t ht
    rcases ht with ht | ht | ht <;> exact h _ ht

theorem countP_edit {α : Type} {p : α → Bool} {rem l' add l : List α} (hp : (rem ++ l').Perm (add ++ l)) :
    rem.countP p + l'.countP p = add.countP p + l.countP p := by
  rw [← List.countP_append, ← List.countP_append]; exact hp.countP_eq p

theorem weigh_nil : holders [] = 0 ∧ nM2 [] = 0 ∧ nC1 [] = 0 := ⟨rfl, rfl, rfl⟩
theorem weigh_m1 (t : Nat) : holders [.m1 t] = 1 ∧ nM2 [.m1 t] = 0 ∧ nC1 [.m1 t] = 0 := ⟨rfl, rfl, rfl⟩
theorem weigh_m2 : holders [.m2] = 0 ∧ nM2 [.m2] = 1 ∧ nC1 [.m2] = 0 := ⟨rfl, rfl, rfl⟩
theorem weigh_c1 (t : Nat) : holders [.c1 t] = 1 ∧ nM2 [.c1 t] = 0 ∧ nC1 [.c1 t] = 1 := ⟨rfl, rfl, rfl⟩
theorem weigh_c2 (t : Nat) : holders [.c2 t] = 1 ∧ nM2 [.c2 t] = 0 ∧ nC1 [.c2 t] = 0 := ⟨rfl, rfl, rfl⟩

/-- `AInv` reads the flight list only through three counts and membership, so it is kept by every step whose flight list is the
    old one with the flights `rem` taken out and the flights `add` put in (as multisets), provided bit, owner and counter move by
    what those flights weigh.  The weights (`hr mr cr` / `ha ma ca`: `holders`, `nM2`, `nC1` of `rem` / `add`) come as equations of
    their own: given by `weigh_*`, they leave `hw` a statement about numbers -/
theorem AInv.of_edit {s : St} (h : AInv s) {owner : Nat} {bit : Bool} {cnt : Int} {fl rem add : List Fl}
    (hp : (rem ++ fl).Perm (add ++ s.fl)) {hr mr cr ha ma ca : Nat}
    (wr : holders rem = hr ∧ nM2 rem = mr ∧ nC1 rem = cr) (wa : holders add = ha ∧ nM2 add = ma ∧ nC1 add = ca)
    (htid : ∀ x ∈ add, x.tidOk)
    (hw : b2n bit + b2n (decide (owner ≠ 0)) + ha = b2n s.bit + b2n (decide (s.owner ≠ 0)) + hr ∧
      cnt - b2n bit + ma + cr = s.cnt - b2n s.bit + mr + ca) : AInv ⟨owner, bit, cnt, fl⟩ := by
  obtain ⟨rfl, rfl, rfl⟩ := wr
  obtain ⟨rfl, rfl, rfl⟩ := wa
  refine ⟨?_, ?_, tids_iff.2 fun x hx => ?_⟩
  · show b2n bit + holders fl + b2n (decide (owner ≠ 0)) = 1
    have : holders rem + holders fl = holders add + holders s.fl := countP_edit hp
    obtain ⟨htok, -⟩ := hw
    have := h.token
    omega
  · show cnt = (b2n bit : Int) - nM2 fl + nC1 fl
    have : nM2 rem + nM2 fl = nM2 add + nM2 s.fl := countP_edit hp
    have : nC1 rem + nC1 fl = nC1 add + nC1 s.fl := countP_edit hp
    obtain ⟨-, hcnt⟩ := hw
    have := h.count
    omega
  · rcases List.mem_append.1 (hp.mem_iff.1 (List.mem_append_right rem hx)) with hx | hx
    · exact htid x hx
    · exact tids_iff.1 h.tids x hx

theorem AInv.of_holder {s : St} (h : AInv s) {x : Fl} (hx : x ∈ s.fl) (hh : x.holds = true) : s.bit = false ∧ s.owner = 0 := by
  have hpos : 0 < holders s.fl := List.countP_pos_iff.2 ⟨x, hx, hh⟩
  have htok := h.token
  exact ⟨b2n_eq_zero.1 (by omega), b2n_ne_eq_zero.1 (by omega)⟩

theorem perm_erase {a : Fl} {l : List Fl} (hm : a ∈ l) : ([a] ++ l.erase a).Perm ([] ++ l) := (List.perm_cons_erase hm).symm

theorem perm_swap {a : Fl} {l : List Fl} (hm : a ∈ l) (b : Fl) : ([a] ++ (b :: l.erase a)).Perm ([b] ++ l) :=
  (List.Perm.swap b a _).trans ((List.perm_cons_erase hm).symm.cons b)

theorem inv_step {s s' : St} (h : AInv s) (st : Step s s') : AInv s' := by
  have htid := tids_iff.1 h.tids
  -- per step: the flight taken out and the flight put in (`.refl` where one is only put in), what they weigh, and the arithmetic left
  cases st with
  | markStore t ho hn =>
    refine h.of_edit (.refl _) weigh_nil (weigh_m1 t) (List.forall_mem_singleton.2 hn) ?_
    rw [b2n_z, b2n_ne (ho ▸ hn : s.owner ≠ 0)]
    omega
  | markOr t hm =>
    obtain ⟨hb, _⟩ := h.of_holder hm rfl
    refine h.of_edit (perm_swap hm .m2) (weigh_m1 t) weigh_m2 (List.forall_mem_singleton.2 trivial) ?_
    rw [hb, b2n_true, b2n_false]
    omega
  | markInc hm => exact h.of_edit (perm_erase hm) weigh_m2 weigh_nil nofun (by omega)
  | clearAnd t hb hn =>
    refine h.of_edit (.refl _) weigh_nil (weigh_c1 t) (List.forall_mem_singleton.2 hn) ?_
    rw [hb, b2n_true, b2n_false]
    omega
  | clearMiss hb => exact h
  | ownAgain t _ => exact h
  | remark t hm =>
    obtain ⟨hb, _⟩ := h.of_holder hm rfl
    refine h.of_edit (perm_erase hm) (weigh_c1 t) weigh_nil nofun ?_
    rw [hb, b2n_true, b2n_false]
    omega
  | clearDec t hm =>
    exact h.of_edit (perm_swap hm (.c2 t)) (weigh_c1 t) (weigh_c2 t) (List.forall_mem_singleton.2 (htid (.c1 t) hm)) (by omega)
  | reMarkStore t hm =>
    exact h.of_edit (perm_swap hm (.m1 t)) (weigh_c2 t) (weigh_m1 t) (List.forall_mem_singleton.2 (htid (.c2 t) hm)) (by omega)
  | clearOwn t hm =>
    obtain ⟨_, ho⟩ := h.of_holder hm rfl
    refine h.of_edit (perm_erase hm) (weigh_c2 t) weigh_nil nofun ?_
    rw [ho, b2n_z, b2n_ne (htid _ hm)]
    omega

/-- at most one thread holds the segment, and an owned segment is neither marked nor held -/
theorem single_adopter {s : St} (h : AInv s) :
    holders s.fl ≤ 1 ∧ (s.owner ≠ 0 → s.bit = false ∧ holders s.fl = 0) := by
  have htok := h.token
  refine ⟨by omega, fun hne => ?_⟩
  have := b2n_ne hne
  exact ⟨b2n_eq_zero.1 (by omega), by omega⟩

example : AInv { owner := 7, bit := false, cnt := 0, fl := [] } :=
  ⟨by decide, by decide, by intro t h; simp at h⟩
#print axioms inv_step
#print axioms single_adopter
