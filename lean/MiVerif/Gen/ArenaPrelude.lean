/-! Hand-written prelude of the generated file Gen/ArenaGen.lean (extract/arenatr.py): the arena state the functions of src/arena.c
    work on (one bit per 32 MiB arena block), the interpretation of the bitmap primitives on a block range, and of the OS calls. -/
namespace GenR

abbrev Mask := Nat → Bool

structure MemId where
  initially_committed : Bool
  initially_zero : Bool
  is_pinned : Bool
deriving DecidableEq, Repr

structure ArSt where
  inuse : Mask
  committed : Mask
  purge : Mask
  dirty : Mask
  os : Mask                 -- ghost: every OS page of the block is accessible
  hasCommitted : Bool       -- arena->blocks_committed != NULL
  hasPurge : Bool
  hasDirty : Bool
  pinned : Bool             -- arena->memid.is_pinned
  zeroInit : Bool           -- arena->memid.initially_zero
  expire : Int              -- arena->purge_expire
  gexpire : Int             -- mi_arenas_purge_expire
  start : Nat               -- arena->start

def inRange (i n : Int) (k : Nat) : Bool := decide (i ≤ (k : Int) ∧ (k : Int) < i + n)
/-- _mi_bitmap_claim_across: set the bits of the range -/
def mSet (m : Mask) (i n : Int) : Mask := fun k => if inRange i n k then true else m k
/-- _mi_bitmap_unclaim_across: clear the bits of the range -/
def mClr (m : Mask) (i n : Int) : Mask := fun k => if inRange i n k then false else m k
-- the tests read the bits from `i.toNat` on, the updates act on `inRange`: the two ranges are the same for `0 ≤ i` only (`C07A.range_iff`)
def bmAllSet (m : Mask) (i n : Int) : Bool := (List.range n.toNat).all (fun j => m (i.toNat + j))
def bmAllZero (m : Mask) (i n : Int) : Bool := (List.range n.toNat).all (fun j => !m (i.toNat + j))
def bmAnyZero (m : Mask) (i n : Int) : Bool := (List.range n.toNat).any (fun j => !m (i.toNat + j))
def bmCount (m : Mask) (i n : Int) : Int := (((List.range n.toNat).filter (fun j => m (i.toNat + j))).length : Int)

def blockStart (σ : ArSt) (idx : Int) : Int := (σ.start : Int) + idx * 33554432
/-- the arena blocks covered by the address range [p, p + size) -/
def blocksOf (σ : ArSt) (p size : Int) : Int × Int := ((p - (σ.start : Int)) / 33554432, size / 33554432)

/-- _mi_os_commit_ex with the OS's answer -/
def osCommit (σ : ArSt) (p size : Int) (ok : Bool) : ArSt × Bool :=
  if ok then ({ σ with os := mSet σ.os (blocksOf σ p size).1 (blocksOf σ p size).2 }, true) else (σ, false)
/-- _mi_os_purge / _mi_os_purge_ex with the OS layer's answer and whether access was really revoked -/
def osPurge (σ : ArSt) (p size : Int) (needsRecommit gone : Bool) : ArSt × Bool :=
  ({ σ with os := if gone then mClr σ.os (blocksOf σ p size).1 (blocksOf σ p size).2 else σ.os }, needsRecommit)

end GenR
