import MiVerif.Gen.Arith
/-! Hand-written prelude of the generated file Gen/Commit.lean (extract/masktr.py): the state the commit-bookkeeping functions of
    src/segment.c work on, the interpretation of the commit-mask primitives, and of the OS calls (whose answers are parameters). -/
namespace GenC

abbrev Mask := Nat → Bool

structure SegSt where
  commit : Mask        -- segment->commit_mask (one bit per 64 KiB commit unit)
  purge  : Mask        -- segment->purge_mask
  os     : Mask        -- ghost: every OS page of the unit is accessible
  expire : Int         -- segment->purge_expire
  allowPurge : Bool
  allowDecommit : Bool
  info   : Nat         -- segment_info_slices
  slices : Nat         -- segment_slices
  base   : Nat         -- address of the segment

def mUninit : Mask := fun _ => false
def mEmpty (m : Mask) : Bool := !(List.range 512).any m
def mFull (m : Mask) : Bool := (List.range 512).all m
/-- mi_commit_mask_all_set(commit, cm): every bit of `cm` is set in `commit` -/
def mAllSet (a cm : Mask) : Bool := (List.range 512).all (fun k => !cm k || a k)
def mAnySet (a cm : Mask) : Bool := (List.range 512).any (fun k => a k && cm k)
def mInter (a b : Mask) : Mask := fun k => a k && b k
def mUnion (a b : Mask) : Mask := fun k => a k || b k
def mDiff (a b : Mask) : Mask := fun k => a k && !b k
def mRange (i n : Nat) : Mask := fun k => decide (i ≤ k ∧ k < i + n)

-- (the thirteen arguments of `Gen.mi_segment_commit_mask` are explained at `CommitM.rangeOf`, Model/Commit.lean)
/-- mi_segment_commit_mask: start address, size and mask, through the arithmetic regenerated from the source (Gen.Arith) -/
def commitMask (σ : SegSt) (conservative : Nat) (p size : Int) : Int × Int × Mask :=
  let r := Gen.mi_segment_commit_mask (0, 0) 0 σ.info (fun _ => σ.slices * 65536) (fun i n => (i, n)) (0, 0) σ.base conservative p.toNat size.toNat 0 0 0
  ((r.1 : Int), (r.2.1 : Int), mRange r.2.2.1 r.2.2.2)

/-- the commit units covered by the address range [start, start + size) (both multiples of the unit relative to the segment) -/
def unitsOf (σ : SegSt) (start size : Int) : Mask := mRange ((start.toNat - σ.base) / 65536) (size.toNat / 65536)

/-- _mi_os_commit with the OS's answer: a granted request makes the units accessible, a refused one changes nothing -/
def osCommit (σ : SegSt) (start size : Int) (ok : Bool) : SegSt × Bool :=
  if ok then ({ σ with os := mUnion σ.os (unitsOf σ start size) }, true) else (σ, false)

/-- _mi_os_purge with the OS layer's answer (`needsRecommit`) and whether access was really revoked (`gone`) -/
def osPurge (σ : SegSt) (start size : Int) (needsRecommit gone : Bool) : SegSt × Bool :=
  ({ σ with os := if gone then mDiff σ.os (unitsOf σ start size) else σ.os }, needsRecommit)

end GenC
